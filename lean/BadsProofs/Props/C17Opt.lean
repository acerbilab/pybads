/-
  C17 over ONE WHOLE CALL of `optimize()` (model `Opt` / `Full`): the candidate sets that the search and poll steps of every iteration of a whole
  call evaluate from are outputs of the filter - pairwise distinct (even after rounding to half the mesh tolerance), feasible - and what a step
  evaluates are rows of them: the search step one row, the poll step pairwise distinct rows.  (The freshness clause - "nothing already evaluated" -
  fails for the code and holds for the documented behaviour: `filter_fresh_counterexample`, `filterSpec_fresh`, known finding C17-fresh.)
-/
import BadsProofs.Props.C17
import BadsProofs.Props.C14Run
import BadsProofs.Props.C18Opt

namespace Bads.Opt

/-- the filtered poll set of iteration `(s, q)` -/
def pollSet (e : Full.Env) (s : Full.St) (q : Full.Orc) : List Pt :=
  filterCode (Pipe.filterIn e.pipe false q.h q.pollU (Full.pts s ++ ((Full.searchCand e s q).map (·.1.u)).toList))

/-- NO DUPLICATES in the set a search step picks from, NOTHING INFEASIBLE in it -/
theorem search_set_distinct_feasible (e : Full.Env) (s : Full.St) (q : Full.Orc) :
    ((searchSet e s q).map (keyOf (e.pipe.tolMesh / 2))).Nodup ∧ ∀ c, e.pipe.cons = some c → ∀ p ∈ searchSet e s q, c p = false :=
  ⟨filter_pairwise_distinct_keys (Pipe.filterIn e.pipe true q.h q.searchU (Full.pts s)),
   filter_feasible (Pipe.filterIn e.pipe true q.h q.searchU (Full.pts s))⟩

/-- ... and in the set a poll step picks from -/
theorem poll_set_distinct_feasible (e : Full.Env) (s : Full.St) (q : Full.Orc) :
    ((pollSet e s q).map (keyOf (e.pipe.tolMesh / 2))).Nodup ∧ ∀ c, e.pipe.cons = some c → ∀ p ∈ pollSet e s q, c p = false :=
  ⟨filter_pairwise_distinct_keys (Pipe.filterIn e.pipe false q.h q.pollU _),
   filter_feasible (Pipe.filterIn e.pipe false q.h q.pollU _)⟩

/-- what the steps of an iteration evaluate: rows of those sets, the polled ones pairwise distinct (the picks being distinct indices) -/
theorem iteration_evaluates_filtered_rows (e : Full.Env) (s : Full.St) (q : Full.Orc) (hnd : q.pollOrder.Nodup) :
    (∀ u ∈ searchEvals e s q, u ∈ searchSet e s q) ∧ (∀ p ∈ Full.polled e s q, p ∈ pollSet e s q) ∧ (Full.polled e s q).Nodup :=
  ⟨search_eval_in_search_set e s q, Full.polled_sub_out e s q, Full.poll_step_nodup e s q hnd⟩

/-- every iteration of the loop of a WHOLE CALL (states of `Reach`) -/
theorem optimize_candidate_sets (e : Env) (io : InitOrc) (s : Full.St) (q : Full.Orc)
    (_h : Reach (loopEnv e (init e io)) (loopStart e (init e io)) s) (hnd : q.pollOrder.Nodup) :
    ((searchSet (loopEnv e (init e io)) s q).map (keyOf (e.full.pipe.tolMesh / 2))).Nodup ∧
    ((pollSet (loopEnv e (init e io)) s q).map (keyOf (e.full.pipe.tolMesh / 2))).Nodup ∧
    (∀ u ∈ searchEvals (loopEnv e (init e io)) s q, u ∈ searchSet (loopEnv e (init e io)) s q) ∧
    (∀ p ∈ Full.polled (loopEnv e (init e io)) s q, p ∈ pollSet (loopEnv e (init e io)) s q) ∧
    (Full.polled (loopEnv e (init e io)) s q).Nodup :=
  ⟨(search_set_distinct_feasible (loopEnv e (init e io)) s q).1, (poll_set_distinct_feasible (loopEnv e (init e io)) s q).1,
   iteration_evaluates_filtered_rows _ s q hnd⟩

end Bads.Opt
