/-
  C19 - Iteration history and OptimizeResult are consistent records of the run (run level).

  For EVERY sequence of evaluated candidates, GP estimates, re-estimated history values and final
  quantile values (all noise modes; incumbents re-estimated and possibly swapped for earlier
  iterates): every recorded iterate - and the incumbent itself - is a pair (point, value) that the
  evaluation log returned together, and the returned x is one of the recorded iterates.
  The container-level theorems are in `Props/C19Container.lean`.
-/
import BadsProofs.Props.C05

namespace Bads.Noisy

/-- Pairs (point, logged value) the run has seen so far. -/
abbrev Evals := List (Pt × Rat)

def candPair (c : Cand) : Pt × Rat := (c.u, c.y)

/-- Invariant: `u` and `u_best` agree at iteration boundaries, the incumbent pair was observed
    together, and so was every recorded iterate. -/
def PInv (s : St) (ev : Evals) : Prop :=
  s.u = s.uBest ∧ (s.u, s.yval) ∈ ev ∧ ∀ r ∈ s.hist, pairOf r ∈ ev

theorem PInv_mono (s : St) (ev ev' : Evals) (h : PInv s ev) : PInv s (ev ++ ev') :=
  ⟨h.1, List.mem_append_left _ h.2.1, fun r hr => List.mem_append_left _ (h.2.2 r hr)⟩

theorem search_pinv (s : St) (ev : Evals) (c : Option Cand) (h : PInv s ev) :
    PInv (searchUpdate s c) (ev ++ (c.map candPair).toList) := by
  rcases searchUpdate_cases s c with ⟨hs, _⟩ | ⟨x, hx, hs, _⟩
  · rw [hs]
    exact PInv_mono s ev _ h
  · cases hx
    rw [hs]
    exact ⟨rfl, List.mem_append_right _ (List.mem_singleton_self _), (PInv_mono s ev _ h).2.2⟩

theorem pollBest_mem (fval : Rat) : ∀ (cs : List Cand) (best : Rat) (arg : Option Cand) (c : Cand),
    (pollBest fval cs best arg).2 = some c → c ∈ cs ∨ arg = some c := by
  intro cs best arg c h
  rw [pollBest_eq_bestFold] at h
  rcases bestFold_cases (fun c => fval - c.f) cs best arg with ⟨hr, _⟩ | ⟨x, hx, hr, _⟩
  · rw [hr] at h
    exact Or.inr h
  · rw [hr] at h
    cases h
    exact Or.inl hx

theorem poll_pinv (s : St) (ev : Evals) (cs : List Cand) (h : PInv s ev) :
    PInv (pollUpdate s cs) (ev ++ cs.map candPair) := by
  obtain ⟨h1, h2, h3⟩ := PInv_mono s ev (cs.map candPair) h
  rcases pollUpdate_cases s cs with ⟨hs, _⟩ | ⟨c, hc, hs, _⟩
  · rw [hs]
    exact ⟨rfl, h1 ▸ h2, h3⟩
  · rw [hs]
    exact ⟨rfl, List.mem_append_right _ (List.mem_map_of_mem hc), h3⟩

theorem record_pinv (s : St) (ev : Evals) (it : Nat) (h : PInv s ev) : PInv (recordIter s it) ev := by
  obtain ⟨h1, h2, h3⟩ := h
  refine ⟨h1, h2, ?_⟩
  intro r hr
  rcases setAt_mem _ _ _ _ hr with rfl | hr
  · exact h2
  · exact h3 r hr

/-- After recording iteration `it`, re-estimating and (possibly) swapping keeps the invariant: the
    reloaded values belong to the current iterate's own row, a swap takes a whole recorded row. -/
theorem reEvalSwap_pinv (s : St) (ev : Evals) (it : Nat) (vals : List (Rat × Rat)) (tol : Rat)
    (h : PInv s ev) (hcur : ∃ r, s.hist[it]? = some r ∧ pairOf r = (s.u, s.yval)) :
    PInv (reEvalSwap s it vals tol) ev := by
  obtain ⟨h1, h2, h3⟩ := h
  have hrows := reEstimate_rows_mem h3 vals
  rcases reEvalSwap_cases s it vals tol with ⟨_, hs⟩ | ⟨cur, hc, hs | ⟨i, r, hr, hs⟩⟩
  · rw [hs]
    exact ⟨h1, h2, hrows⟩
  · obtain ⟨r0, hr0, hp0⟩ := hcur
    obtain ⟨r1, hr1, hp1⟩ := getElem_reEstimate_pair _ _ _ _ hc
    obtain rfl : r0 = r1 := Option.some.inj (hr0.symm.trans hr1)
    have hcy : cur.yval = s.yval := congrArg Prod.snd (hp1.symm.trans hp0)
    rw [hs]
    exact ⟨h1, hcy ▸ h2, hrows⟩
  · rw [hs]
    exact ⟨rfl, hrows r (List.mem_of_getElem? hr), hrows⟩

/-- the pairs evaluated by the search step, by the poll step, and by the whole iteration -/
def sCands (i : Iter) : Evals := match i.search with | some (some c) => [candPair c] | _ => []
def pCands (i : Iter) : Evals := match i.poll with | some cs => cs.map candPair | none => []
def candsOf (i : Iter) : Evals := sCands i ++ pCands i

/-- the state after the search step of `iterStep`, and after its poll step (entered with `u := u_best`) -/
def st1 (s : St) (i : Iter) : St := match i.search with | some c => searchUpdate s c | none => s
def st3 (s1 : St) (i : Iter) : St :=
  match i.poll with
  | some cs => pollUpdate { s1 with u := s1.uBest } cs
  | none => { s1 with u := s1.uBest }

/-- No search and an empty search set are the same to the state, and so are no poll and an empty poll. -/
theorem st1_eq (s : St) (i : Iter) : st1 s i = searchUpdate s i.search.join := by
  unfold st1
  cases i.search <;> rfl

theorem sCands_eq (i : Iter) : sCands i = (i.search.join.map candPair).toList := by
  unfold sCands
  rcases i.search with _ | _ | c <;> rfl

theorem st3_eq (s1 : St) (i : Iter) : st3 s1 i = pollUpdate s1 (i.poll.getD []) := by
  unfold st3
  cases i.poll <;> rfl

theorem pCands_eq (i : Iter) : pCands i = (i.poll.getD []).map candPair := by
  unfold pCands
  cases i.poll <;> rfl

theorem iterStep_eq (tol : Rat) (s : St) (i : Iter) :
    iterStep tol s i =
      (let s3 := st3 (st1 s i) i
       let s4 := if i.poll.isSome || i.finished then recordIter s3 i.it else s3
       match i.reVals with
       | some vals => if i.poll.isSome then reEvalSwap s4 i.it vals tol else s4
       | none => s4) := rfl

theorem iterStep_cases (tol : Rat) (s : St) (i : Iter) :
    ((i.poll.isSome || i.finished) = false ∧ iterStep tol s i = st3 (st1 s i) i) ∨
    ((i.poll.isSome || i.finished) = true ∧
      (iterStep tol s i = recordIter (st3 (st1 s i) i) i.it ∨
       ∃ vals, i.reVals = some vals ∧
         iterStep tol s i = reEvalSwap (recordIter (st3 (st1 s i) i) i.it) i.it vals tol)) := by
  rw [iterStep_eq]
  cases hrec : (i.poll.isSome || i.finished) with
  | false =>
    have hp : i.poll.isSome = false := (Bool.or_eq_false_iff.mp hrec).1
    refine Or.inl ⟨rfl, ?_⟩
    cases i.reVals <;> simp [hp]
  | true =>
    refine Or.inr ⟨rfl, ?_⟩
    cases i.reVals with
    | none => exact Or.inl rfl
    | some vals =>
      cases hp : i.poll.isSome with
      | false => exact Or.inl (by simp)
      | true => exact Or.inr ⟨vals, rfl, by simp⟩

theorem st1_hist (s : St) (i : Iter) : (st1 s i).hist = s.hist := by
  rw [st1_eq, searchUpdate_hist]

theorem st3_hist (s1 : St) (i : Iter) : (st3 s1 i).hist = s1.hist := by
  rw [st3_eq, pollUpdate_hist]

theorem st1_pinv (s : St) (ev : Evals) (i : Iter) (h : PInv s ev) : PInv (st1 s i) (ev ++ sCands i) := by
  rw [st1_eq, sCands_eq]
  exact search_pinv s ev _ h

theorem st3_pinv (s1 : St) (ev : Evals) (i : Iter) (h : PInv s1 ev) : PInv (st3 s1 i) (ev ++ pCands i) := by
  rw [st3_eq, pCands_eq]
  exact poll_pinv s1 ev _ h

/-- ONE LOOP ITERATION preserves the invariant (for all oracle inputs). -/
theorem iterStep_pinv (tol : Rat) (s : St) (ev : Evals) (i : Iter) (h : PInv s ev) (hit : i.it ≤ s.hist.length) :
    PInv (iterStep tol s i) (ev ++ candsOf i) := by
  have h3 : PInv (st3 (st1 s i) i) (ev ++ candsOf i) := by
    rw [candsOf, ← List.append_assoc]
    exact st3_pinv _ _ i (st1_pinv s ev i h)
  rcases iterStep_cases tol s i with ⟨_, hs⟩ | ⟨_, hs | ⟨vals, _, hs⟩⟩
  · rw [hs]
    exact h3
  · rw [hs]
    exact record_pinv _ _ i.it h3
  · rw [hs]
    refine reEvalSwap_pinv _ _ _ _ _ (record_pinv _ _ i.it h3) ⟨_, setAt_get _ _ _ ?_, rfl⟩
    rw [st3_hist, st1_hist]
    exact hit

/-- FINAL CHOICE: the returned point is one of the recorded iterates, with that iterate's own
    observed value; the invariant is kept. -/
theorem finalChoice_pinv (s : St) (ev : Evals) (vals : List (Rat × Rat)) (qs : List Rat) (h : PInv s ev) :
    PInv (finalChoice s vals qs) ev ∧
    (∀ i, argminFrom1 qs = some i → i < s.hist.length →
      ∃ r, s.hist[i]? = some r ∧ (finalChoice s vals qs).u = r.u ∧ (finalChoice s vals qs).yval = r.yval) := by
  refine ⟨?_, final_point_is_iterate s vals qs⟩
  obtain ⟨h1, h2, h3⟩ := h
  have hrows := reEstimate_rows_mem h3 vals
  rcases finalChoice_cases s vals qs with ⟨hs, _⟩ | ⟨i, r, _, hr, hs⟩
  · rw [hs]
    exact ⟨h1, h2, hrows⟩
  · rw [hs]
    exact ⟨rfl, hrows r (List.mem_of_getElem? hr), hrows⟩

/-- Whole run: from an initial incumbent that was observed, through any number of loop iterations. -/
theorem run_pinv (tol : Rat) : ∀ (its : List Iter) (s : St) (ev : Evals), PInv s ev →
    (∀ (pre : List Iter) (i : Iter) (post : List Iter), its = pre ++ i :: post →
        i.it ≤ (pre.foldl (iterStep tol) s).hist.length) →
    PInv (its.foldl (iterStep tol) s) (ev ++ (its.map candsOf).flatten) := by
  intro its
  induction its with
  | nil => exact fun s ev h _ => by simpa using h
  | cons i is ih =>
    intro s ev h hit
    simp only [List.foldl_cons, List.map_cons, List.flatten_cons, ← List.append_assoc]
    apply ih
    · exact iterStep_pinv tol s ev i h (hit [] i is rfl)
    · exact fun pre j post hsplit => hit (i :: pre) j post (congrArg (i :: ·) hsplit)

/-! Non-vacuity: a noisy iteration with a poll, a re-estimate and a swap back to iterate 1. -/
example :
    let s0 : St := { u := [0], uBest := [0], yval := 5, fval := 5, fsd := 1,
                     hist := [{ u := [9], yval := 7, fval := 7, fsd := 1 }, { u := [1], yval := 4, fval := 9/2, fsd := 1 }] }
    let i : Iter := { search := some (some { u := [2], y := 3, f := 4, sd := 1/2 }), poll := some [{ u := [3], y := 6, f := 5, sd := 1 }],
                      it := 2, finished := false, reVals := some [(7, 1), (2, 1/2), (4, 1/2)] }
    let s := iterStep (1/1000) s0 i
    (s.u, s.uBest, s.yval, s.fval) = ([1], [1], 4, 2) ∧ s.hist.length = 3 := by
  decide +kernel

end Bads.Noisy
