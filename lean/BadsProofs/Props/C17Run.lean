/-
  C17, the "consequently" clause at run level: with a filter that does what the property says
  (`filterSpec`: drops candidates whose key is already in the log), a run in which the log handed to the
  filter is the list of points evaluated so far never evaluates two points with the same key - whatever
  the candidate sets and whatever is picked from the survivors.  With the filter AS CODED (`filterCode`)
  this fails: `code_filter_repeats_counterexample` (known finding C17-evaluated-twice, the run-level
  consequence of C17-fresh).
-/
import BadsProofs.Props.C01

namespace Bads.Pipe

/-- one candidate-set step with the documented filter, the log being the evaluations so far -/
def stepSpec (e : Env) (evals : List Pt) (proj : Bool) (h : Rat) (U : List Pt) (picks : List Nat) : List Pt :=
  evals ++ pickAll (filterSpec (filterIn e proj h U evals)) picks

theorem pickAll_keys_nodup (t : Rat) (out : List Pt) (hout : (out.map (keyOf t)).Nodup) :
    ∀ picks : List Nat, picks.Nodup → ((pickAll out picks).map (keyOf t)).Nodup := by
  intro picks hp
  -- the keys of the picked rows are the picked entries of the key list, and distinct positions of a duplicate-free list hold distinct entries
  rw [pickAll_eq_filterMap, List.map_filterMap]
  refine List.Pairwise.filterMap _ (fun i j hij k hi k' hj hk => hij ?_) hp
  simp only [← List.getElem?_map] at hi hj
  exact (List.getElem?_inj (List.getElem?_eq_some_iff.mp hi).1 hout).mp (hi.trans (hk ▸ hj.symm))

theorem pickAll_mem_out (out : List Pt) : ∀ picks : List Nat, ∀ p ∈ pickAll out picks, p ∈ out :=
  pickAll_sub out

/-- WITH THE DOCUMENTED FILTER NO POINT IS EVALUATED TWICE: distinct keys are preserved by every
    candidate-set step, for all candidate sets, meshes and (repetition-free) picks. -/
theorem spec_filter_never_repeats (e : Env) (evals : List Pt) (proj : Bool) (h : Rat) (U : List Pt)
    (picks : List Nat) (hp : picks.Nodup)
    (hev : (evals.map (keyOf (e.tolMesh / 2))).Nodup) :
    ((stepSpec e evals proj h U picks).map (keyOf (e.tolMesh / 2))).Nodup := by
  unfold stepSpec
  rw [List.map_append, List.nodup_append]
  refine ⟨hev, pickAll_keys_nodup _ _ (filterSpec_pairwise_distinct_keys (filterIn e proj h U evals)) picks hp, ?_⟩
  rintro _ ha _ hb rfl
  obtain ⟨p, hpmem, rfl⟩ := List.mem_map.mp hb
  exact filterSpec_fresh (filterIn e proj h U evals) p (pickAll_sub _ picks p hpmem) ha

/-- ... and for whole runs of such steps -/
theorem spec_filter_run_never_repeats (e : Env) :
    ∀ (steps : List (Bool × Rat × List Pt × List Nat)) (evals : List Pt),
      (∀ s ∈ steps, s.2.2.2.Nodup) → (evals.map (keyOf (e.tolMesh / 2))).Nodup →
      ((steps.foldl (fun ev s => stepSpec e ev s.1 s.2.1 s.2.2.1 s.2.2.2) evals).map (keyOf (e.tolMesh / 2))).Nodup :=
  fun steps _ hs h => List.foldlRecOn (motive := fun ev => (ev.map (keyOf (e.tolMesh / 2))).Nodup) steps _ h fun ev hev s hsm =>
    spec_filter_never_repeats e ev s.1 s.2.1 s.2.2.1 s.2.2.2 (hs s hsm) hev

/-- THE CODE'S FILTER DOES LET A REPEAT THROUGH: a one-dimensional run that has evaluated the point 1 and is
    offered the candidate 1 again evaluates it a second time. -/
theorem code_filter_repeats_counterexample :
    ∃ (e : Env) (evals : List Pt) (s : Step),
      (evals.map (keyOf (e.tolMesh / 2))).Nodup ∧ ¬ ((step e evals s).map (keyOf (e.tolMesh / 2))).Nodup := by
  refine ⟨{ lb := [.fin 0], ub := [.fin 2], origLo := [.fin 0], origHi := [.fin 2], tolMesh := 1, cons := none, ginv := id },
          [[1]], .filt false 1 [[1]] [[1]] [0], ?_, ?_⟩ <;> decide +kernel

end Bads.Pipe
