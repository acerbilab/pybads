/-
  C14 inside the composed model of a whole run (FullRun.lean): when the candidate set the oracle hands to a poll step IS what the generator
  builds - incumbent + mesh_size · (± a direction of `Poll.basis`) - then, in every iteration of every run and in every noise mode,

    * every point EVALUATED in the poll step is the incumbent plus mesh_size times a row of the basis (`poll_step_form`),
    * no point is evaluated twice in one poll step, hence no direction is tried twice (`poll_step_nodup`),
    * at most 2·D points are polled (`poll_step_at_most_2D`),

  whatever the feasibility filter drops, whatever order the acquisition function picks, however the budget cuts the step short;
  `run_polls_form` lifts this to every iteration a run reaches.  The hypothesis on the oracle is what C14's tie observes at every poll of
  every traced run (the directions handed out by `poll_mads_2n` and the candidate set of `_poll_step_`).
-/
import BadsProofs.Props.C14
import BadsProofs.Props.C17Run
import BadsProofs.Props.C19Run

namespace Bads.Full

/-- offset of one direction: `u + ms · b` -/
def shifted (u : Pt) (ms : Rat) (b : List Int) : Pt := List.zipWith (fun (ui : Rat) (bi : Int) => ui + ms * (bi : Rat)) u b

/-- the incumbent the poll step of this iteration is centred on, and the basis it polls -/
def PollSetOK (D : Nat) (mult : Rat) (e : Env) (s : St) (q : Orc) : Prop :=
  ∃ (draw : Nat → Nat → Int) (sgn : Nat → Bool) (nmax : Int) (perm : Nat → Nat),
    q.pollU = Poll.pollPoints (nsAfterSearch e s q).u (mult ^ s.ctl.m.msi) (Poll.basis D draw sgn nmax perm)

/-- the points evaluated in the poll step of this iteration, in order -/
def polled (e : Env) (s : St) (q : Orc) : List Pt := (pollCands e s q).map (·.1.u)

theorem polled_sub_out (e : Env) (s : St) (q : Orc) :
    ∀ p ∈ polled e s q, p ∈ filterCode (Pipe.filterIn e.pipe false q.h q.pollU (pts s ++ ((searchCand e s q).map (·.1.u)).toList)) :=
  List.forall_mem_map.mpr (pollCands_spec e s q)

/-- the box stage of a set that is not projected is a `List.filter` -/
theorem out_sub_pollU (e : Env) (h : Rat) (U L : List Pt) : ∀ p ∈ filterCode (Pipe.filterIn e.pipe false h U L), p ∈ U :=
  fun p hp => (List.mem_filter.mp (filter_sub_input (Pipe.filterIn e.pipe false h U L) p hp)).1

/-- EVERY POLLED POINT IS incumbent + mesh_size · (a row of the basis) -/
theorem poll_step_form (D : Nat) (mult : Rat) (e : Env) (s : St) (q : Orc) (h : PollSetOK D mult e s q) :
    ∃ (draw : Nat → Nat → Int) (sgn : Nat → Bool) (nmax : Int) (perm : Nat → Nat), ∀ p ∈ polled e s q,
      ∃ b ∈ Poll.basis D draw sgn nmax perm, p = shifted (nsAfterSearch e s q).u (mult ^ s.ctl.m.msi) b := by
  obtain ⟨draw, sgn, nmax, perm, hU⟩ := h
  refine ⟨draw, sgn, nmax, perm, fun p hp => ?_⟩
  have h1 := out_sub_pollU e q.h q.pollU _ p (polled_sub_out e s q p hp)
  rw [hU] at h1
  exact Poll.poll_points_form _ _ _ p h1

theorem zipCands_map_u : ∀ (us : List Pt) (vs : List Val), ((zipCands us vs).map (·.1.u)).Sublist us := by
  intro us vs
  fun_induction zipCands us vs with
  | case1 u us v vs ih => exact ih.cons_cons u
  | case2 => exact List.nil_sublist _

/-- NO POINT TWICE in one poll step (the acquisition function's picks are distinct indices: the code deletes a candidate once evaluated) -/
theorem poll_step_nodup (e : Env) (s : St) (q : Orc) (hnd : q.pollOrder.Nodup) : (polled e s q).Nodup := by
  unfold polled
  rw [pollCands_eq]
  have hk := filter_pairwise_distinct_keys (Pipe.filterIn e.pipe false q.h q.pollU (pts s ++ ((searchCand e s q).map (·.1.u)).toList))
  exact ((Pipe.pickAll_keys_nodup _ _ hk _ (hnd.sublist (List.take_sublist _ _))).of_map _).sublist (zipCands_map_u _ _)

/-- AT MOST 2·D POINTS are polled -/
theorem poll_step_at_most_2D (D : Nat) (mult : Rat) (e : Env) (s : St) (q : Orc) (h : PollSetOK D mult e s q) (hnd : q.pollOrder.Nodup) :
    (polled e s q).length ≤ 2 * D := by
  obtain ⟨draw, sgn, nmax, perm, hU⟩ := h
  -- distinct rows of the filtered poll set, which is no larger than the generated one
  have hle := (List.subperm_of_subset (poll_step_nodup e s q hnd) (polled_sub_out e s q)).length_le
  have h2 := Pipe.filterIn_length_le e.pipe false q.h q.pollU (pts s ++ ((searchCand e s q).map (·.1.u)).toList)
  have h3 : q.pollU.length = 2 * D := by rw [hU, Poll.pollPoints, List.length_map, Poll.basis_length]
  exact hle.trans (h3 ▸ h2)

/-- hypothesis along the run: at every iteration that is actually executed the oracle's poll set is the generator's -/
def PollsOK (D : Nat) (mult : Rat) (e : Env) : List Orc → St → Prop
  | [], _ => True
  | q :: qs, s => if s.ctl.c.finished then True else (PollSetOK D mult e s q ∧ q.pollOrder.Nodup) ∧ PollsOK D mult e qs (step e s q)

/-- conclusion along the run -/
def AllPolls (P : St → Orc → Prop) (e : Env) : List Orc → St → Prop
  | [], _ => True
  | q :: qs, s => if s.ctl.c.finished then True else P s q ∧ AllPolls P e qs (step e s q)

/-- the conclusions of `poll_step_form`, `poll_step_nodup` and `poll_step_at_most_2D` about one iteration -/
def StepForm (D : Nat) (mult : Rat) (e : Env) (s : St) (q : Orc) : Prop :=
  (∃ (draw : Nat → Nat → Int) (sgn : Nat → Bool) (nmax : Int) (perm : Nat → Nat), ∀ p ∈ polled e s q,
      ∃ b ∈ Poll.basis D draw sgn nmax perm, p = shifted (nsAfterSearch e s q).u (mult ^ s.ctl.m.msi) b) ∧
  (polled e s q).Nodup ∧ (polled e s q).length ≤ 2 * D

theorem run_polls_form (D : Nat) (mult : Rat) (e : Env) : ∀ (qs : List Orc) (s : St), PollsOK D mult e qs s → AllPolls (StepForm D mult e) e qs s := by
  intro qs
  induction qs with
  | nil => exact fun _ _ => trivial
  | cons q qs ih =>
    intro s h
    unfold PollsOK at h
    unfold AllPolls
    by_cases hf : s.ctl.c.finished = true
    · simp [hf]
    · simp only [hf, Bool.false_eq_true, if_false] at h ⊢
      exact ⟨⟨poll_step_form D mult e s q h.1.1, poll_step_nodup e s q h.1.2, poll_step_at_most_2D D mult e s q h.1.1 h.1.2⟩,
        ih (step e s q) h.2⟩

end Bads.Full

/-! non-vacuity: in the example run of C19Run the first iteration's poll set is the generator's (D = 1, mesh 2^0, incumbent after the search),
    both candidates are evaluated -/
namespace Bads.Full.Example
example : PollSetOK 1 2 e1 s0 q1 ∧ q1.pollOrder.Nodup ∧ (polled e1 s0 q1).length = 2 := by
  refine ⟨⟨fun _ _ => 0, fun _ => true, 1, id, ?_⟩, by decide, by decide +kernel⟩
  decide +kernel
end Bads.Full.Example
