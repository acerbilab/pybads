/-
  C19 over ONE WHOLE CALL of `optimize()` (model `Opt`): the history the caller gets with the result - after the initial phase, the loop in any
  noise mode and the final choice among the recorded iterates - records only points at which the target was really called, with a value observed
  there; the returned point is one of the recorded iterates when the final choice is made; while the loop runs the recording index is right.
-/
import BadsProofs.Props.C03Opt
import BadsProofs.Props.C05Opt
import BadsProofs.Props.C05

namespace Bads.Opt

/-- the history as the caller sees it: after the final re-estimation / choice -/
def finalHist (e : Env) (io : InitOrc) (qs : List Full.Orc) (fo : FinalOrc) : List Noisy.HRow :=
  (finalNs (init e io) (optimize e io qs fo).loop fo).hist

/-- every recorded iterate pairs a point with a value that the logger returned AT THAT POINT during the run -/
theorem optimize_recorded_iterates_observed (e : Env) (hb : boxOK e.full.pipe.lb e.full.pipe.ub = true) (hn : 1 ≤ e.full.o.nTry)
    (io : InitOrc) (hi : InitOK e io) (hf : Fits e io) (qs : List Full.Orc) (hq : RunOK e io qs) (fo : FinalOrc) :
    ∀ row ∈ finalHist e io qs fo, (row.u, row.yval) ∈ (optimize e io qs fo).loop.pairs :=
  (finalNs_pinv (init e io) _ fo (loop_record e io qs fo).1).2.2

/-- every logged pair of a whole call belongs to a target call of the call sequence, made at the same point -/
theorem optimize_pairs_called (e : Env) (io : InitOrc) (qs : List Full.Orc) (fo : FinalOrc) :
    ∀ p ∈ (optimize e io qs fo).loop.pairs, ∃ c ∈ (optimize e io qs fo).calls, c.1 = p.1 := by
  intro p hp
  have : p.1 ∈ (optimize e io qs fo).calls.map (·.1) := by
    rw [calls_points]
    exact List.mem_append_left _ (List.mem_map_of_mem hp)
  exact List.mem_map.mp this

/-- C19, WHOLE CALL: every recorded iterate is a point at which the target was called during this call -/
theorem optimize_recorded_iterates_called (e : Env) (hb : boxOK e.full.pipe.lb e.full.pipe.ub = true) (hn : 1 ≤ e.full.o.nTry)
    (io : InitOrc) (hi : InitOK e io) (hf : Fits e io) (qs : List Full.Orc) (hq : RunOK e io qs) (fo : FinalOrc) :
    ∀ row ∈ finalHist e io qs fo, ∃ c ∈ (optimize e io qs fo).calls, c.1 = row.u := by
  intro row hr
  exact optimize_pairs_called e io qs fo _ (optimize_recorded_iterates_observed e hb hn io hi hf qs hq fo row hr)

/-- the returned point is a point at which the target was called (recorded), in every noise mode -/
theorem optimize_returned_called (e : Env) (hb : boxOK e.full.pipe.lb e.full.pipe.ub = true) (hn : 1 ≤ e.full.o.nTry)
    (io : InitOrc) (hi : InitOK e io) (hf : Fits e io) (qs : List Full.Orc) (hq : RunOK e io qs) (fo : FinalOrc) :
    ∃ c ∈ (optimize e io qs fo).calls, c.1 = (optimize e io qs fo).u :=
  optimize_pairs_called e io qs fo _ (returned_x_evaluated e hb hn io hi hf qs hq fo)

/-- C19, WHOLE CALL, noisy modes: when the final choice is made (uncertainty handled, at least one poll iteration, the quantile argmin `i`
    inside the history) the returned point IS the `i`-th recorded iterate, with its recorded observed value -/
theorem optimize_returned_is_recorded_iterate (e : Env) (io : InitOrc) (qs : List Full.Orc) (fo : FinalOrc) (i : Nat)
    (hu : (init e io).unc > 0) (hp : (optimize e io qs fo).loop.ctl.c.pollIter > 0)
    (ha : Noisy.argminFrom1 fo.qs = some i) (hlt : i < (optimize e io qs fo).loop.ns.hist.length) :
    ∃ r, (optimize e io qs fo).loop.ns.hist[i]? = some r ∧ (optimize e io qs fo).u = r.u
      ∧ (finalNs (init e io) (optimize e io qs fo).loop fo).yval = r.yval := by
  have hfin : finalNs (init e io) (optimize e io qs fo).loop fo = Noisy.finalChoice (optimize e io qs fo).loop.ns fo.reVals fo.qs :=
    if_pos ⟨hu, hp⟩
  show ∃ r : Noisy.HRow, _ ∧ (finalNs (init e io) (optimize e io qs fo).loop fo).u = r.u ∧ _
  rw [hfin]
  exact Noisy.final_point_is_iterate (optimize e io qs fo).loop.ns fo.reVals fo.qs i ha hlt

/-- ... and when it is not made (deterministic target, or no poll iteration) the returned point is the loop's incumbent, untouched -/
theorem optimize_returned_is_incumbent (e : Env) (io : InitOrc) (qs : List Full.Orc) (fo : FinalOrc)
    (h : ¬ ((init e io).unc > 0 ∧ (optimize e io qs fo).loop.ctl.c.pollIter > 0)) :
    (optimize e io qs fo).u = (optimize e io qs fo).loop.ns.u ∧ finalHist e io qs fo = (optimize e io qs fo).loop.ns.hist := by
  have hfin := finalNs_of_not (init e io) (optimize e io qs fo).loop fo h
  exact ⟨congrArg Noisy.St.u hfin, congrArg Noisy.St.hist hfin⟩

/-- THE RECORDING INDEX IS RIGHT in a whole call: as long as the loop has not finished, the history has exactly `poll_iteration` rows -/
theorem optimize_hist_length_while_running (e : Env) (hb : boxOK e.full.pipe.lb e.full.pipe.ub = true) (hn : 1 ≤ e.full.o.nTry)
    (io : InitOrc) (hi : InitOK e io) (hf : Fits e io) (qs : List Full.Orc) (hq : RunOK e io qs) (fo : FinalOrc)
    (hrun : (optimize e io qs fo).loop.ctl.c.finished = false) :
    (optimize e io qs fo).loop.ns.hist.length = (optimize e io qs fo).loop.ctl.c.pollIter :=
  (loop_record e io qs fo).2 hrun

/-- `func_count` of the result counts every target call of the call, and no loop state ever reported more -/
theorem optimize_func_count_final (e : Env) (hb : boxOK e.full.pipe.lb e.full.pipe.ub = true) (hn : 1 ≤ e.full.o.nTry)
    (io : InitOrc) (hi : InitOK e io) (hf : Fits e io) (qs : List Full.Orc) (hq : RunOK e io qs) (fo : FinalOrc) :
    (optimize e io qs fo).funcCount = (optimize e io qs fo).calls.length ∧ (optimize e io qs fo).loop.ctl.c.fc ≤ (optimize e io qs fo).funcCount :=
  ⟨(optimize_budget e hb hn io hi hf qs hq fo).2, Nat.le_add_right _ _⟩

namespace Example
open Bads.Full.Example
/-- non-vacuity: in the whole call of C05Opt's example run for three iterations the final choice runs (noise detected, two poll iterations, two
    recorded iterates, quantile argmin = iterate 1) and the hypotheses of `optimize_returned_is_recorded_iterate` hold -/
example : (init eX ioX).unc = 1 := by decide +kernel
example : (optimize eX ioX [q1, q2, q2] foX).loop.ctl.c.pollIter = 2 ∧ (optimize eX ioX [q1, q2, q2] foX).loop.ns.hist.length = 2 ∧
    Noisy.argminFrom1 foX.qs = some 1 ∧ (finalHist eX ioX [q1, q2, q2] foX).map (·.u) = [[1], [1]] ∧
    (optimize eX ioX [q1, q2, q2] foX).u = [1] ∧ (optimize eX ioX [q1, q2, q2] foX).loop.ctl.c.finished = false := by decide +kernel
end Example

end Bads.Opt
