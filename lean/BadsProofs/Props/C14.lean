/-
  C14 - Each poll explores a positive spanning set of mesh directions at the incumbent.

  All statements are for EVERY dimension `n` and EVERY outcome of the random choices of the
  direction generator (all strictly-lower-triangular fills, all sign vectors, all permutations).
-/
import BadsModel.Poll
import Mathlib.LinearAlgebra.Matrix.Block
import Mathlib.LinearAlgebra.Matrix.Determinant.Basic
import Mathlib.LinearAlgebra.Matrix.NonsingularInverse

open Matrix

namespace Bads.Poll

/-- The direction matrix as a Mathlib matrix: row `k` = direction `d_k` (same `dirEntry` as the
    executable `dirs`). -/
def dirMatrix {n : Nat} (draw : Nat → Nat → Int) (sgn : Nat → Bool) (nmax : Int) (σ : Equiv.Perm (Fin n)) :
    Matrix (Fin n) (Fin n) Int :=
  Matrix.of fun k r => dirEntry draw sgn nmax (fun i => if h : i < n then (σ ⟨i, h⟩).val else 0) k.val r.val

/-- The executable list of directions has exactly these entries. -/
theorem dirs_entries (n : Nat) (draw : Nat → Nat → Int) (sgn : Nat → Bool) (nmax : Int) (perm : Nat → Nat)
    (k r : Nat) (hk : k < n) (hr : r < n) :
    ((dirs n draw sgn nmax perm)[k]?.bind (·[r]?)) = some (dirEntry draw sgn nmax perm k r) := by
  simp only [dirs, List.getElem?_map, List.getElem?_range, hk, hr, Option.map_some, Option.bind_some]

/-- DETERMINANT: `det = sign σ · ∏ᵢ (±nmax)`. -/
theorem dirs_det {n : Nat} (draw : Nat → Nat → Int) (sgn : Nat → Bool) (nmax : Int) (σ : Equiv.Perm (Fin n)) :
    (dirMatrix draw sgn nmax σ).det =
      Equiv.Perm.sign σ * ∏ i : Fin n, (if sgn i.val then nmax else -nmax) := by
  have hT : dirMatrix draw sgn nmax σ =
      ((Matrix.of fun i j : Fin n => lowerTri draw sgn nmax i.val j.val).submatrix σ id)ᵀ := by
    ext k r
    simp [dirMatrix, dirEntry]
  rw [hT, Matrix.det_transpose, Matrix.det_permute, Matrix.det_of_isLowerTriangular]
  · refine congrArg _ (Finset.prod_congr rfl fun i _ => ?_)
    rw [Matrix.of_apply, lowerTri, if_neg (lt_irrefl _), if_pos rfl]
  · intro i j (hij : i.val < j.val)
    rw [Matrix.of_apply, lowerTri, if_neg hij.not_gt, if_neg hij.ne']

/-- NON-SINGULAR: for `nmax ≠ 0` (the code has `nmax ≥ 1`) the determinant is not zero. -/
theorem dirs_nonsingular {n : Nat} (draw : Nat → Nat → Int) (sgn : Nat → Bool) (nmax : Int) (hn : nmax ≠ 0)
    (σ : Equiv.Perm (Fin n)) : (dirMatrix draw sgn nmax σ).det ≠ 0 := by
  rw [dirs_det]
  refine Int.mul_ne_zero (Units.ne_zero _) (Finset.prod_ne_zero_iff.mpr fun i _ => ?_)
  split
  · exact hn
  · exact Int.neg_ne_zero.mpr hn

theorem nmaxOf_pos (sms ms : Rat) : 1 ≤ nmaxOf sms ms := le_max_left _ _

/-- The rows of a non-singular integer matrix, together with their negatives, positively span `ℚⁿ`. -/
theorem rows_positive_spanning {n : Nat} (A : Matrix (Fin n) (Fin n) Int) (hA : A.det ≠ 0) (v : Fin n → ℚ) :
    ∃ cp cm : Fin n → ℚ, (∀ k, 0 ≤ cp k) ∧ (∀ k, 0 ≤ cm k) ∧
      ∀ r, v r = ∑ k, (cp k * ((A k r : Int) : ℚ) + cm k * (-((A k r : Int) : ℚ))) := by
  let M : Matrix (Fin n) (Fin n) ℚ := A.map (Int.cast : Int → ℚ)
  have hu : IsUnit M.det := by
    rw [isUnit_iff_ne_zero, ← Int.cast_det, Int.cast_ne_zero]
    exact hA
  -- coefficients: c = v ᵥ* M⁻¹, so that c ᵥ* M = v
  let c : Fin n → ℚ := Matrix.vecMul v M⁻¹
  have hc : Matrix.vecMul c M = v := by
    simp only [c, Matrix.vecMul_vecMul, Matrix.nonsing_inv_mul M hu, Matrix.vecMul_one]
  refine ⟨fun k => max (c k) 0, fun k => max (-(c k)) 0, fun k => le_max_right _ _, fun k => le_max_right _ _,
    fun r => ?_⟩
  have hr : v r = ∑ k, c k * M k r := (congrFun hc r).symm
  rw [hr]
  refine Finset.sum_congr rfl fun k _ => ?_
  -- each coefficient is the difference of its positive and its negative part
  rw [mul_neg, ← sub_eq_add_neg, ← sub_mul]
  exact congrArg (· * M k r) (posPart_sub_negPart (c k)).symm

/-- POSITIVE SPANNING: every rational vector is a NON-NEGATIVE combination of the `2n` directions
    `{+d_k, -d_k}`. -/
theorem dirs_positive_spanning {n : Nat} (draw : Nat → Nat → Int) (sgn : Nat → Bool) (nmax : Int) (hn : nmax ≠ 0)
    (σ : Equiv.Perm (Fin n)) (v : Fin n → ℚ) :
    ∃ cp cm : Fin n → ℚ, (∀ k, 0 ≤ cp k) ∧ (∀ k, 0 ≤ cm k) ∧
      ∀ r, v r = ∑ k, (cp k * ((dirMatrix draw sgn nmax σ k r : Int) : ℚ) + cm k * (-((dirMatrix draw sgn nmax σ k r : Int) : ℚ))) :=
  rows_positive_spanning _ (dirs_nonsingular draw sgn nmax hn σ) v

/-- ENTRIES BOUNDED by the mesh-ratio parameter, given draws in the generator's range. -/
theorem dirs_entries_bounded (draw : Nat → Nat → Int) (sgn : Nat → Bool) (nmax : Int) (perm : Nat → Nat)
    (hn : 1 ≤ nmax) (hd : ∀ i j, 1 - nmax ≤ draw i j ∧ draw i j ≤ nmax - 1) (k r : Nat) :
    |dirEntry draw sgn nmax perm k r| ≤ nmax := by
  have := hd (perm r) k
  rw [abs_le]
  unfold dirEntry lowerTri
  omega

/-- DEFAULT MESH SETTINGS (`nmax = 1`): the directions are exactly signed coordinate directions -
    entry `(k, r)` is `±1` if `perm r = k` and `0` otherwise. -/
theorem dirs_default_are_signed_unit_vectors (draw : Nat → Nat → Int) (sgn : Nat → Bool) (perm : Nat → Nat)
    (hd : ∀ i j, 1 - (1 : Int) ≤ draw i j ∧ draw i j ≤ 1 - 1) (k r : Nat) :
    dirEntry draw sgn 1 perm k r = if perm r = k then (if sgn (perm r) then 1 else -1) else 0 := by
  obtain ⟨h1, h2⟩ := hd (perm r) k
  rw [dirEntry, lowerTri, Int.le_antisymm h2 h1]
  by_cases h : perm r = k
  · rw [if_pos h, if_neg h.not_gt, if_pos h.symm]
  · rw [if_neg h, if_neg (Ne.symm h), Int.sub_self, ite_self]

/-- With the default options `search_mesh_size / mesh_size` rounds to at most 1 whenever the search
    mesh is not coarser than the poll mesh, so `nmax = 1`. -/
theorem nmax_default (sms ms : Rat) (h : roundHE (sms / ms) ≤ 1) : nmaxOf sms ms = 1 := by
  simp [nmaxOf, h]

theorem removeAt_eq_eraseIdx {α : Type} : ∀ (l : List α) (i : Nat), removeAt l i = l.eraseIdx i
  | [], _ => rfl
  | _ :: _, 0 => rfl
  | a :: as, i + 1 => congrArg (a :: ·) (removeAt_eq_eraseIdx as i)

theorem removeAt_sublist {α : Type} : ∀ (l : List α) (i : Nat), (removeAt l i).Sublist l := by
  intro l i
  exact removeAt_eq_eraseIdx l i ▸ List.eraseIdx_sublist l i

theorem removeAt_length {α : Type} : ∀ (l : List α) (i : Nat) (a : α), l[i]? = some a → (removeAt l i).length + 1 = l.length := by
  intro l i a h
  obtain ⟨hi, -⟩ := List.getElem?_eq_some_iff.mp h
  rw [removeAt_eq_eraseIdx]
  exact List.length_eraseIdx_add_one hi

theorem removeAt_not_mem {α : Type} : ∀ (l : List α) (i : Nat) (a : α), l.Nodup → l[i]? = some a → a ∉ removeAt l i := by
  intro l i a hn h hmem
  rw [removeAt_eq_eraseIdx, List.mem_eraseIdx_iff_getElem?] at hmem
  obtain ⟨j, hji, hj⟩ := hmem
  obtain ⟨hjlt, -⟩ := List.getElem?_eq_some_iff.mp hj
  exact hji ((List.getElem?_inj hjlt hn).mp (hj.trans h.symm))

/-- Whatever the acquisition ranking picks, the polled points are, up to order, part of the candidate set:
    each pick is taken out of the set before the next one is made. -/
theorem pollLoop_subperm {α : Type} : ∀ (picks : List Nat) (cands : List α), (pollLoop cands picks).Subperm cands
  | [], _ => List.nil_subperm
  | i :: is, cands => by
    unfold pollLoop
    cases hi : cands[i]? with
    | none => exact List.nil_subperm
    | some p =>
      obtain ⟨hlt, rfl⟩ := List.getElem?_eq_some_iff.mp hi
      exact ((List.subperm_cons _).mpr (removeAt_eq_eraseIdx cands i ▸ pollLoop_subperm is _)).trans
        (List.getElem_cons_eraseIdx_perm hlt).subperm

/-- AT MOST `2n` POINTS, EACH AT MOST ONCE: whatever the acquisition ranking picks, the polled
    points are pairwise distinct members of the candidate set, and no more than it holds. -/
theorem pollLoop_nodup_sub {α : Type} : ∀ (picks : List Nat) (cands : List α), cands.Nodup →
    (pollLoop cands picks).Nodup ∧ (∀ p ∈ pollLoop cands picks, p ∈ cands) ∧ (pollLoop cands picks).length ≤ cands.length := by
  intro picks cands hn
  have hsub := pollLoop_subperm picks cands
  refine ⟨?_, hsub.subset, hsub.length_le⟩
  obtain ⟨l, hperm, hl⟩ := hsub
  exact hperm.nodup_iff.mp (hn.sublist hl)

theorem basis_length (n : Nat) (draw : Nat → Nat → Int) (sgn : Nat → Bool) (nmax : Int) (perm : Nat → Nat) :
    (basis n draw sgn nmax perm).length = 2 * n := by
  simp only [basis, dirs, List.length_append, List.length_map, List.length_range, two_mul]

/-- Every candidate poll point is the incumbent plus `mesh_size` times a row of the basis. -/
theorem poll_points_form (u : Pt) (ms : Rat) (B : List (List Int)) :
    ∀ p ∈ pollPoints u ms B, ∃ b ∈ B, p = List.zipWith (fun (ui : Rat) (bi : Int) => ui + ms * (bi : Rat)) u b := by
  intro p hp
  obtain ⟨b, hb, rfl⟩ := List.mem_map.mp hp
  exact ⟨b, hb, rfl⟩

/-! Non-vacuity: D = 3, mesh ratio 2 (so `nmax = 2`), a concrete draw. -/
example : nmaxOf (1/2) (1/4) = 2 ∧
    dirs 3 (fun i j => if i = 2 ∧ j = 0 then -1 else 1) (fun i => i == 1) 2 (fun r => [2, 0, 1].getD r 0) =
      [[-1, -2, 1], [1, 0, 2], [-2, 0, 0]] := by
  constructor <;> decide +kernel

end Bads.Poll
