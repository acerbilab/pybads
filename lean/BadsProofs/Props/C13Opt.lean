/-
  C13 over ONE WHOLE CALL of `optimize()` (model `Opt`, BadsModel/Optimize.lean): the mesh laws of `Ctl.mstep` hold in EVERY state the loop
  of a whole call passes through - the loop being entered in the state the initial phase DERIVES (`Opt.init`), in any noise mode, with the
  poll outcome derived from the estimates of the evaluated candidates (`Full.outOf`).  The states are described by the inductive predicate
  `Reach`; `optimize_reach` shows that the state in which the loop of `Opt.optimize` is left is one of them.
-/
import BadsProofs.Props.C13
import BadsProofs.Props.C05Opt

namespace Bads.Opt

/-- the states the main loop passes through when it is entered in `s0`: `s0` itself, and `Full.step` of a state that is not finished -/
inductive Reach (e : Full.Env) (s0 : Full.St) : Full.St → Prop
  | start : Reach e s0 s0
  | next (s : Full.St) (q : Full.Orc) : Reach e s0 s → s.ctl.c.finished = false → Reach e s0 (Full.step e s q)

theorem run_reach (e : Full.Env) (s0 : Full.St) : ∀ (qs : List Full.Orc) (s : Full.St), Reach e s0 s → Reach e s0 (Full.run e qs s) :=
  fun qs s h => Full.run_induction e (Reach e s0) qs s h fun q _ s hnf h => Reach.next s q h hnf

/-- the loop of a whole call is left in a state of `Reach` -/
theorem optimize_reach (e : Env) (io : InitOrc) (qs : List Full.Orc) (fo : FinalOrc) :
    Reach (loopEnv e (init e io)) (loopStart e (init e io)) (optimize e io qs fo).loop :=
  run_reach _ _ qs _ Reach.start

/-- conversely every state of `Reach` is the loop exit of some oracle stream (so the theorems below quantify over exactly the states of runs) -/
theorem reach_is_run (e : Full.Env) (s0 s : Full.St) (h : Reach e s0 s) : ∃ qs, Full.run e qs s0 = s := by
  induction h with
  | start => exact ⟨[], rfl⟩
  | next s q _ hf ih =>
    obtain ⟨qs, hqs⟩ := ih
    refine ⟨qs ++ [q], ?_⟩
    rw [Full.run_eq_whileRun] at hqs ⊢
    rw [whileRun_snoc, hqs, hf]
    rfl

/-- the mesh state at loop entry of a whole call satisfies the invariant whenever the configured initial exponent does not exceed the cap -/
theorem loopStart_minv (e : Env) (io : InitOrc) (h0 : e.msi0 ≤ e.full.o.cap) (hs : e.full.o.sgm = 2) (hc : e.full.o.cap ≤ e.full.o.sgn) :
    Ctl.MInv (loopEnv e (init e io)).o (loopStart e (init e io)).ctl.m := by
  -- (unfold first: left to itself the unifier matches `(init e io).o.cap` with `e.full.o.cap` by comparing the two option records field by field)
  unfold init loopEnv loopStart
  exact Ctl.init_minv _ _ _ e.msi0 h0 hs hc

/-- INVARIANT, every state of the loop: `msi ≤ cap`, `ssi ≤ msi` -/
theorem reach_minv (e : Full.Env) (hs : e.o.sgm = 2) (hc : e.o.cap ≤ e.o.sgn) (s0 : Full.St) (h0 : Ctl.MInv e.o s0.ctl.m) :
    ∀ s, Reach e s0 s → Ctl.MInv e.o s.ctl.m := by
  intro s h
  induction h with
  | start => exact h0
  | next s q _ _ ih =>
    -- (reduce `(Full.step e s q).ctl.m` to `Ctl.mstep ..` first: the unifier would get there by unfolding `mstep`)
    dsimp only [Full.step, Ctl.step]
    exact Ctl.mstep_minv e.o s.ctl (Full.outOf e s q) hs hc ih

/-- C13 IN A WHOLE CALL, every state of the loop, any noise mode: the poll mesh is a power of two with exponent at most the cap and the search
    mesh never exceeds the poll mesh. -/
theorem optimize_mesh_inv (e : Env) (io : InitOrc) (h0 : e.msi0 ≤ e.full.o.cap) (hs : e.full.o.sgm = 2) (hc : e.full.o.cap ≤ e.full.o.sgn)
    (s : Full.St) (h : Reach (loopEnv e (init e io)) (loopStart e (init e io)) s) :
    s.ctl.m.msi ≤ e.full.o.cap ∧ (2 : Rat) ^ s.ctl.m.ssi ≤ (2 : Rat) ^ s.ctl.m.msi := by
  have hm := reach_minv (loopEnv e (init e io)) hs hc _ (loopStart_minv e io h0 hs hc) s h
  exact ⟨hm.1, Ctl.search_mesh_le_mesh _ _ hm.2⟩

/-- ... with the SHIPPED DEFAULTS (regenerated from the option files on every run): the mesh size never exceeds 1 -/
theorem optimize_default_mesh_bounded (d : Generated.Defaults) (hd : d ∈ Generated.defaults) (e : Env) (io : InitOrc)
    (hcap : e.full.o.cap = d.max_poll_grid_number) (hsgm : e.full.o.sgm = d.search_grid_multiplier)
    (hsgn : e.full.o.sgn = d.search_grid_number) (hmsi : e.msi0 = d.init_mesh_size_integer)
    (s : Full.St) (h : Reach (loopEnv e (init e io)) (loopStart e (init e io)) s) :
    (2 : Rat) ^ s.ctl.m.msi ≤ 1 ∧ (2 : Rat) ^ s.ctl.m.ssi ≤ (2 : Rat) ^ s.ctl.m.msi := by
  obtain ⟨hs, hc, h0, hcap0⟩ := Ctl.defaults_mesh_hyps d hd e.full.o hcap hsgm hsgn
  obtain ⟨ha, hb⟩ := optimize_mesh_inv e io (hmsi ▸ h0) hs hc s h
  exact ⟨Ctl.mesh_le_one _ (hcap0 ▸ ha), hb⟩

/-- did this iteration of the composed model run a poll / find a sufficient improvement in it?  (`Ctl.ranPoll` / `Ctl.pollWasGood` on the
    outcome DERIVED from the estimates of the evaluated poll candidates) -/
def polled (e : Full.Env) (s : Full.St) (q : Full.Orc) : Bool := Ctl.ranPoll e.o s.ctl (Full.outOf e s q)
def pollGood (e : Full.Env) (s : Full.St) (q : Full.Orc) : Bool := Ctl.pollWasGood e.o s.ctl (Full.outOf e s q)

theorem polled_eq_pollRuns (e : Full.Env) (s : Full.St) (q : Full.Orc) : polled e s q = Full.pollRuns e s q := by
  rw [Full.pollRuns]; rfl  -- (a bare `rfl` unfolds `polled` first and is slow to check, as for `init_rows_eq` in C03Opt)

/-- THE MESH LAW (`Ctl.mstep_msi`) of one iteration of a whole call, in one statement. -/
theorem step_mesh_law (e : Full.Env) (hexp : e.o.expand = 0) (s : Full.St) (q : Full.Orc) :
    (Full.step e s q).ctl.m.msi =
      (if polled e s q then
         (if pollGood e s q then min (s.ctl.m.msi + 1) e.o.cap
          else if e.o.accel && decide (s.ctl.c.pollIter > e.o.accelSteps) && q.stallMesh then s.ctl.m.msi - 2 else s.ctl.m.msi - 1)
       else s.ctl.m.msi) :=
  Ctl.mstep_msi e.o s.ctl (Full.outOf e s q) hexp

/-- the law holds at EVERY iteration of the loop of a whole call (states of `Reach`, the loop entered in the derived state) -/
theorem optimize_mesh_law (e : Env) (io : InitOrc) (hexp : e.full.o.expand = 0) (s : Full.St) (q : Full.Orc)
    (_h : Reach (loopEnv e (init e io)) (loopStart e (init e io)) s) :
    (Full.step (loopEnv e (init e io)) s q).ctl.m.msi =
      (if polled (loopEnv e (init e io)) s q then
         (if pollGood (loopEnv e (init e io)) s q then min (s.ctl.m.msi + 1) e.full.o.cap
          else if e.full.o.accel && decide (s.ctl.c.pollIter > e.full.o.accelSteps) && q.stallMesh then s.ctl.m.msi - 2 else s.ctl.m.msi - 1)
       else s.ctl.m.msi) :=
  step_mesh_law (loopEnv e (init e io)) hexp s q

/-- a state of the loop other than the entry state is the result of an iteration -/
theorem reach_cases (e : Full.Env) (s0 s : Full.St) (h : Reach e s0 s) : s = s0 ∨ ∃ s' q, Reach e s0 s' ∧ s = Full.step e s' q := by
  cases h with
  | start => exact Or.inl rfl
  | next s' q h' _ => exact Or.inr ⟨s', q, h', rfl⟩

/-- C13, LAST CLAUSE, WHOLE CALL: a call whose loop is left with the message "mesh tolerance" has a poll mesh below the internal tolerance
    `2 ^ tolExp` (which `below_internal_tol_below_user_tol` relates to the user's `tol_mesh`). -/
theorem optimize_tolmesh_sound (e : Env) (io : InitOrc) (qs : List Full.Orc) (fo : FinalOrc)
    (h : (optimize e io qs fo).loop.ctl.c.msg = .tolMesh) :
    (2 : Rat) ^ (optimize e io qs fo).loop.ctl.m.msi < (2 : Rat) ^ e.full.o.tolExp := by
  rcases reach_cases _ _ _ (optimize_reach e io qs fo) with h0 | ⟨s', q, _, hs⟩
  · rw [h0] at h
    cases h  -- the entry state carries the message `none`
  · rw [hs] at h ⊢
    unfold loopEnv init at h ⊢
    exact Ctl.tolmesh_msg_sound _ s'.ctl (Full.outOf _ s' q) h

/-- ... and hence below the USER's tolerance when the internal exponent is the rounded-up logarithm (`2^(tolExp-1) < tol_mesh`) -/
theorem optimize_tolmesh_below_user_tol (e : Env) (io : InitOrc) (qs : List Full.Orc) (fo : FinalOrc) (tol : Rat)
    (hk : (2 : Rat) ^ (e.full.o.tolExp - 1) < tol) (h : (optimize e io qs fo).loop.ctl.c.msg = .tolMesh) :
    (2 : Rat) ^ (optimize e io qs fo).loop.ctl.m.msi < tol :=
  Ctl.below_internal_tol_below_user_tol tol _ _ hk
    ((zpow_lt_zpow_iff_right₀ (by norm_num)).mp (optimize_tolmesh_sound e io qs fo h))

/-! ### non-vacuity: the concrete whole call of C05Opt's example meets the hypotheses; its two iterations poll, the first with a sufficient
     improvement at the cap (mesh stays 1), the second one too -/
namespace Example
open Bads.Full.Example

example : eX.msi0 ≤ eX.full.o.cap ∧ eX.full.o.sgm = 2 ∧ eX.full.o.cap ≤ eX.full.o.sgn ∧ eX.full.o.expand = 0 := by decide +kernel

example : polled (loopEnv eX (init eX ioX)) (loopStart eX (init eX ioX)) q1 = true ∧
    pollGood (loopEnv eX (init eX ioX)) (loopStart eX (init eX ioX)) q1 = true ∧
    (Full.step (loopEnv eX (init eX ioX)) (loopStart eX (init eX ioX)) q1).ctl.m.msi = 0 ∧
    (optimize eX ioX [q1, q2] foX).loop.ctl.m.msi = 0 ∧ (optimize eX ioX [q1, q2] foX).loop.ctl.m.ssi = -10 := by decide +kernel
end Example

end Bads.Opt
