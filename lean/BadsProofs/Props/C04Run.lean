/-
  End-to-end theorems about `Det.run`, the composed model of a whole deterministic run (DetRun.lean):
  for EVERY target function `f`, every stream of candidate sets, acquisition rankings, thresholds and stall
  flags, and every number of iterations,

    * the incumbent is an evaluated point, its value is `f` there, and `f` is nowhere lower on the evaluated
      points (C04, stated on the target itself rather than on an arbitrary list of returned values);
    * every evaluated point lies in the hard box and satisfies the non-box constraint (C01, C02);
    * the number of target calls grows exactly by the number of log entries and never exceeds the budget,
      and the loop finishes within `rank + 1` iterations (C03).

  The component theorems (C01-C04, C17) are lifted through the projections `step_ctl`, `step_log`, `step_inc`.
-/
import BadsModel.DetRun
import BadsProofs.Props.C01
import BadsProofs.Props.C03
import BadsProofs.Props.C04
import BadsProofs.Props.C13

namespace Bads.Det

/-- what the real code guarantees of the search candidates of one iteration -/
def OrcOK (e : Env) (q : Orc) : Prop :=
  0 < q.h ∧ wideB q.h e.pipe.lb e.pipe.ub = true ∧ ∀ p ∈ q.searchU, p.length = e.pipe.lb.length

/-- The invariant of the deterministic loop: the incumbent is a minimal entry of the log (`Inc.Inv`); every logged value is the target's
    at its point; every logged point is in the hard box, and feasible; the controller's invariants `CInv` and `BInv`. -/
def Inv (e : Env) (s : St) : Prop :=
  Inc.Inv s.inc s.log ∧
  (∀ p ∈ s.log, p.2 = e.f p.1) ∧
  (∀ p ∈ s.log, InBox e.pipe.lb e.pipe.ub p.1) ∧
  (∀ c, e.pipe.cons = some c → ∀ p ∈ s.log, c p.1 = false) ∧
  Ctl.CInv e.o s.ctl.c ∧ Ctl.BInv e.o s.ctl.c

theorem step_ctl (e : Env) (s : St) (q : Orc) : (step e s q).ctl = Ctl.step e.o s.ctl (outOf e s q) := rfl

theorem step_log (e : Env) (s : St) (q : Orc) :
    (step e s q).log = s.log ++ (searchEval e s q).toList ++ pollEvals e s q := rfl

theorem step_inc (e : Env) (s : St) (q : Orc) :
    (step e s q).inc = Inc.step (Inc.step s.inc (.search (searchEval e s q)))
      (if pollRuns e s q then .poll (pollEvals e s q) else .search none) := by
  unfold step
  dsimp only
  split <;> rfl

theorem run_eq_whileRun (e : Env) : ∀ (qs : List Orc) (s : St), run e qs s = whileRun (fun s => s.ctl.c.finished) (step e) qs s :=
  eq_whileRun _ _ (run e) (fun _ => rfl) (fun _ _ _ => rfl)

theorem run_induction (e : Env) (P : St → Prop) (qs : List Orc) (s : St) (h : P s)
    (hstep : ∀ q ∈ qs, ∀ s, s.ctl.c.finished = false → P s → P (step e s q)) : P (run e qs s) := by
  rw [run_eq_whileRun]
  exact whileRun_induction _ _ P qs s h hstep

theorem searchEval_spec (e : Env) (s : St) (q : Orc) (u : Pt) (y : Rat) (h : searchEval e s q = some (u, y)) :
    Ctl.doSearch e.o s.ctl.c = true ∧ y = e.f u ∧
    u ∈ filterCode (Pipe.filterIn e.pipe true q.h q.searchU (logPts s)) := by
  unfold searchEval at h
  split at h
  · rename_i hd
    split at h
    · rename_i v hv
      cases h
      exact ⟨hd, rfl, List.mem_of_getElem? hv⟩
    · cases h
  · cases h

theorem pollEvals_of_not (e : Env) (s : St) (q : Orc) (h : pollRuns e s q = false) : pollEvals e s q = [] := by
  unfold pollEvals; rw [h]; rfl

theorem pollEvals_spec (e : Env) (s : St) (q : Orc) (p : Pt × Rat) (h : p ∈ pollEvals e s q) :
    p.2 = e.f p.1 ∧
    p.1 ∈ filterCode (Pipe.filterIn e.pipe false q.h q.pollU (logPts s ++ (searchEval e s q).toList.map (·.1))) := by
  obtain ⟨u, hu, rfl⟩ := List.mem_map.mp (List.mem_ite_nil_right.mp h).2
  exact ⟨rfl, Pipe.pickAll_sub _ _ u hu⟩

theorem pickAll_length_le (out : List Pt) : ∀ picks : List Nat, (Pipe.pickAll out picks).length ≤ picks.length :=
  Pipe.pickAll_length_le out

/-- the poll evaluates no more points than the loop guard allows -/
theorem pollEvals_length (e : Env) (s : St) (q : Orc) :
    (pollEvals e s q).length ≤ Ctl.nEvals e.o (cBeforePoll e s q).fc q.pollOrder.length := by
  unfold pollEvals
  split
  · rw [List.length_map]
    exact le_trans (pickAll_length_le _ _) (List.length_take_le _ _)
  · exact Nat.zero_le _

/-- every evaluation of an iteration returns the target's value, at a point of the hard box that satisfies the constraint -/
theorem newEvals_ok (e : Env) (hb : boxOK e.pipe.lb e.pipe.ub = true) (s : St) (q : Orc) (hq : OrcOK e q) :
    ∀ p ∈ (searchEval e s q).toList ++ pollEvals e s q,
      p.2 = e.f p.1 ∧ InBox e.pipe.lb e.pipe.ub p.1 ∧ (∀ c, e.pipe.cons = some c → c p.1 = false) := by
  intro p hp
  rcases List.mem_append.mp hp with hs | hp
  · obtain ⟨_, hy, hmem⟩ := searchEval_spec e s q p.1 p.2 (Option.mem_toList.mp hs)
    exact ⟨hy, Pipe.filterIn_ok e.pipe hb true q.h q.searchU _ [] hq p.1 hmem⟩
  · obtain ⟨hy, hmem⟩ := pollEvals_spec e s q p hp
    exact ⟨hy, Pipe.filterIn_ok e.pipe hb false q.h q.pollU _ [] trivial p.1 hmem⟩

theorem cReset_fc (o : Ctl.Opts) (c : Ctl.CSt) : (Ctl.cReset o c).fc = c.fc := Ctl.cReset_fc o c

theorem cstep_fc (o : Ctl.Opts) (c : Ctl.CSt) (co : Ctl.COut) :
    (Ctl.cstep o c co).fc = (Ctl.cAfterSearch o c co.search).fc +
      (if Ctl.doPoll o (Ctl.cAfterSearch o c co.search) = true
       then Ctl.nEvals o (Ctl.cAfterSearch o c co.search).fc co.nz else 0) := Ctl.cstep_fc o c co

theorem afterSearch_fc (e : Env) (s : St) (q : Orc) :
    (Ctl.cAfterSearch e.o s.ctl.c (searchOut e s q)).fc = s.ctl.c.fc + (searchEval e s q).toList.length := by
  rw [Ctl.cAfterSearch_fc]
  unfold searchOut
  cases hs : searchEval e s q with
  | none => exact congrArg _ (ite_self 0)
  | some uy => exact congrArg _ (if_pos ((Ctl.doSearch_iff _ _).mp (searchEval_spec e s q uy.1 uy.2 hs).1))

theorem step_fc (e : Env) (s : St) (q : Orc) :
    (step e s q).ctl.c.fc + s.log.length = s.ctl.c.fc + (step e s q).log.length := by
  have h : (step e s q).ctl.c.fc = s.ctl.c.fc + (searchEval e s q).toList.length + (pollEvals e s q).length :=
    Ctl.step_fc_add e.o s.ctl (outOf e s q) q.pollOrder.length _ _ (afterSearch_fc e s q) (List.length_map _)
      (pollEvals_length e s q) fun h => congrArg _ (pollEvals_of_not e s q h)
  rw [step_log, List.length_append, List.length_append]
  omega

theorem step_inv (e : Env) (hb : boxOK e.pipe.lb e.pipe.ub = true) (hn : 1 ≤ e.o.nTry) (s : St) (q : Orc)
    (hq : OrcOK e q) (h : Inv e s) (hnf : s.ctl.c.finished = false) : Inv e (step e s q) := by
  obtain ⟨hinc, hval, hbox, hcons, hci, hbi⟩ := h
  have hnew := newEvals_ok e hb s q hq
  have hlog : (step e s q).log = s.log ++ ((searchEval e s q).toList ++ pollEvals e s q) := List.append_assoc _ _ _
  refine ⟨?_, hlog ▸ List.forall_mem_append.mpr ⟨hval, fun p h => (hnew p h).1⟩,
    hlog ▸ List.forall_mem_append.mpr ⟨hbox, fun p h => (hnew p h).2.1⟩,
    fun c hc => hlog ▸ List.forall_mem_append.mpr ⟨hcons c hc, fun p h => (hnew p h).2.2 c hc⟩,
    Ctl.cstep_inv e.o s.ctl.c _ hci, Ctl.cstep_binv e.o s.ctl.c _ hbi hnf⟩
  -- the incumbent: a search event, then a poll event (an empty one when no poll runs)
  rw [step_inc, step_log]
  have h1 := Inc.inc_step s.inc s.log (.search (searchEval e s q)) hinc
  have hev : Inc.evalsOf (.search (searchEval e s q)) = (searchEval e s q).toList := by
    cases searchEval e s q <;> rfl
  rw [hev] at h1
  split
  next =>
    generalize pollEvals e s q = es  -- else the unifier unfolds `pollEvals` to see that `evalsOf (.poll es)` is `es`
    exact Inc.inc_step _ _ (.poll es) h1
  next hp =>
    rw [pollEvals_of_not e s q (Bool.eq_false_of_not_eq_true hp)]
    exact Inc.inc_step _ _ (.search none) h1

/-- EVERY REACHABLE STATE of a deterministic run satisfies the invariant. -/
theorem run_inv (e : Env) (hb : boxOK e.pipe.lb e.pipe.ub = true) (hn : 1 ≤ e.o.nTry) :
    ∀ (qs : List Orc) (s : St), (∀ q ∈ qs, OrcOK e q) → Inv e s → Inv e (run e qs s) :=
  fun qs s hq h => run_induction e (Inv e) qs s h fun q hqm s hnf h => step_inv e hb hn s q (hq q hqm) h hnf

theorem run_fc (e : Env) : ∀ (qs : List Orc) (s : St),
    (run e qs s).ctl.c.fc + s.log.length = s.ctl.c.fc + (run e qs s).log.length :=
  fun qs s => run_induction e (fun r => r.ctl.c.fc + s.log.length = s.ctl.c.fc + r.log.length) qs s rfl
    fun q _ r _ h => by have := step_fc e r q; omega

/-- THE RESULT OF A DETERMINISTIC RUN, for every target `f` and every oracle stream: the returned point was
    evaluated, lies in the hard box and is feasible; the reported value is the target's value there; no evaluated
    point has a lower target value; the target was called once per log entry (plus the calls made before the
    loop) and never more often than the budget allows. -/
theorem det_run_spec (e : Env) (hb : boxOK e.pipe.lb e.pipe.ub = true) (hn : 1 ≤ e.o.nTry)
    (qs : List Orc) (hq : ∀ q ∈ qs, OrcOK e q) (s0 : St) (h0 : Inv e s0) :
    let r := run e qs s0
    (r.inc.u, r.inc.fval) ∈ r.log ∧ r.inc.fval = e.f r.inc.u ∧ (∀ p ∈ r.log, e.f r.inc.u ≤ e.f p.1) ∧
    InBox e.pipe.lb e.pipe.ub r.inc.u ∧ (∀ c, e.pipe.cons = some c → c r.inc.u = false) ∧
    r.ctl.c.fc ≤ e.o.budget ∧ r.ctl.c.fc + s0.log.length = s0.ctl.c.fc + r.log.length := by
  intro r
  obtain ⟨⟨hmem, hmin⟩, hval, hbox, hcons, _, hbud⟩ := run_inv e hb hn qs s0 hq h0
  have hv := hval _ hmem
  refine ⟨hmem, hv, fun p hp => ?_, hbox _ hmem, fun c hc => hcons c hc _ hmem, hbud.1, run_fc e qs s0⟩
  rw [← hval p hp, ← hv]
  exact hmin p hp

/-- TERMINATION of the composed model: whatever the oracle answers, after more than `rank` iterations the
    controller has finished. -/
theorem det_terminates (e : Env) (hn : 1 ≤ e.o.nTry) :
    ∀ (qs : List Orc) (s : St), Ctl.CInv e.o s.ctl.c → Ctl.rank e.o s.ctl.c < qs.length →
      (run e qs s).ctl.c.finished = true := by
  intro qs s hinv hr
  rw [run_eq_whileRun]
  exact whileRun_finished (fun s : St => s.ctl.c.finished) (step e) (fun s => Ctl.CInv e.o s.ctl.c) (fun s => Ctl.rank e.o s.ctl.c)
    (fun s q hi _ => Ctl.step_rank e.o s.ctl (outOf e s q) hi)
    qs s hinv hr

/-- MESH (C13) in the composed model: the poll mesh never exceeds its cap and the search mesh never exceeds the
    poll mesh, in every reachable state of a deterministic run. -/
theorem det_run_minv (e : Env) (hs : e.o.sgm = 2) (hc : e.o.cap ≤ e.o.sgn) :
    ∀ (qs : List Orc) (s : St), Ctl.MInv e.o s.ctl.m → Ctl.MInv e.o (run e qs s).ctl.m :=
  fun qs s h => run_induction e (fun s => Ctl.MInv e.o s.ctl.m) qs s h
    fun q _ s _ h => by
      -- reduce `(step e s q).ctl.m` to `Ctl.mstep ..` first: left to `exact`, the unifier unfolds `mstep` instead
      dsimp only [step_ctl, Ctl.step]
      exact Ctl.mstep_minv e.o s.ctl (outOf e s q) hs hc h

/-- MESSAGE (C03) in the composed model: after every iteration the termination message names a condition that holds. -/
theorem det_step_msg_sound (e : Env) (s : St) (q : Orc) :
    Ctl.msgSound e.o (step e s q).ctl.c (decide ((step e s q).ctl.m.msi < e.o.tolExp)) q.stallStop = true :=
  Ctl.msg_sound e.o s.ctl (outOf e s q)

/-! ### non-vacuity: a concrete one-dimensional run meets the hypotheses, and the composed model computes it -/
namespace Example
def o1 : Ctl.Opts := { D := 1, nTry := 2, budget := 12, maxIter := 5, skip := true, cap := 0, sgm := 2, sgn := 10, locked := true,
                       accel := true, accelSteps := 3, stallIters := 4, tolExp := -20, expand := 0, incr := 1 }
def e1 : Env := { pipe := { lb := [.fin (-4)], ub := [.fin 4], origLo := [.fin (-4)], origHi := [.fin 4], tolMesh := 1/1024, cons := none, ginv := id },
                  o := o1, f := fun p => (p.headD 0 - 1) * (p.headD 0 - 1) }
def s0 : St := { log := [([0], 1), ([2], 1), ([-2], 9)], inc := { u := [0], fval := 1 }, ctl := Ctl.init o1 4 3 0 }
def q1 : Orc := { h := 1/4, searchU := [[1/2], [3]], searchPick := 0, pollU := [[1], [-1]], pollOrder := [0, 1], thr := 1/2, stallMesh := false, stallStop := false }
def q2 : Orc := { h := 1/4, searchU := [[1], [3/4]], searchPick := 1, pollU := [[3/2], [1/2]], pollOrder := [1, 0], thr := 1/8, stallMesh := false, stallStop := false }

example : Inv e1 s0 ∧ OrcOK e1 q1 ∧ OrcOK e1 q2 ∧ boxOK e1.pipe.lb e1.pipe.ub = true ∧ 1 ≤ e1.o.nTry := by
  refine ⟨⟨⟨by decide +kernel, by decide +kernel⟩, by decide +kernel, by decide +kernel, ?_, ?_, ?_⟩, ?_, ?_, by decide +kernel, by decide⟩
  · intro c hc; cases hc
  · unfold Ctl.CInv; decide +kernel
  · unfold Ctl.BInv; decide +kernel
  · unfold OrcOK; decide +kernel
  · unfold OrcOK; decide +kernel

example : (run e1 [q1, q2] s0).inc = { u := [1], fval := 0 } ∧ (run e1 [q1, q2] s0).ctl.c.fc = 7 ∧
    (run e1 [q1, q2] s0).log.length = 6 := by decide +kernel
end Example

end Bads.Det
