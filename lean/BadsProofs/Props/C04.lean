/-
  C04 - Deterministic targets: the result is the best evaluated point, reported truthfully.

  For EVERY sequence of evaluated points and returned values (any target, plateaus and ties
  included, any candidate generation): the incumbent is always a point that was evaluated, its
  value is exactly the value observed there, and no evaluated point has a strictly lower value;
  the recorded incumbent value never increases.
-/
import BadsProofs.Lemmas.BestLemmas
import Generated.Defaults

namespace Bads.Inc

/-- Default incumbent-update policy (re-proved from the regenerated option values). -/
def HypC04 (d : Generated.Defaults) : Prop :=
  d.sloppy_improvement = true ∧ d.improvement_quantile = 1/2 ∧ d.stobads = false

theorem defaults_satisfy_HypC04 : ∀ d ∈ Generated.defaults, HypC04 d := by
  unfold HypC04; decide +kernel

/-- The incumbent is an evaluated pair and a minimum of everything evaluated so far. -/
def Inv (s : St) (evals : List (Pt × Rat)) : Prop :=
  (s.u, s.fval) ∈ evals ∧ ∀ e ∈ evals, s.fval ≤ e.2

theorem argminFirst_eq_none : ∀ {evs : List (Pt × Rat)}, argminFirst evs = none ↔ evs = []
  | [] => by simp [argminFirst]
  | e :: es => by
    unfold argminFirst
    cases argminFirst es with
    | none => simp
    | some m => simp only; split <;> simp

theorem argminFirst_spec : ∀ (evs : List (Pt × Rat)) (m : Pt × Rat), argminFirst evs = some m →
    m ∈ evs ∧ ∀ e ∈ evs, m.2 ≤ e.2 := by
  intro evs
  induction evs with
  | nil => exact fun m h => nomatch h
  | cons e es ih =>
    intro m h
    rw [argminFirst] at h
    split at h
    next hr =>
      cases h
      rw [argminFirst_eq_none.mp hr]
      exact ⟨List.mem_singleton_self _, fun e' he' => by rw [List.mem_singleton.mp he']⟩
    next m' hr =>
      obtain ⟨hm, hmin⟩ := ih m' hr
      split at h <;> cases h
      next hlt => exact ⟨List.mem_cons_of_mem _ hm, List.forall_mem_cons.mpr ⟨le_of_lt hlt, hmin⟩⟩
      next hge => exact ⟨List.mem_cons_self, List.forall_mem_cons.mpr
        ⟨le_refl _, fun e' he' => le_trans (not_lt.mp hge) (hmin e' he')⟩⟩

/-- Initial incumbent: the (first) minimum of the initial design. -/
theorem inc_init (evs : List (Pt × Rat)) (s : St) (h : initInc evs = some s) : Inv s evs := by
  obtain ⟨m, hm, rfl⟩ := Option.map_eq_some_iff.mp h
  exact argminFirst_spec evs m hm

/-- The running best of the poll: its argument is a polled pair with `fval - y = best`, and `best`
    dominates every polled improvement (and the starting value). -/
theorem pollBest_spec (fval : Rat) : ∀ (es : List (Pt × Rat)) (best : Rat) (arg : Option (Pt × Rat)),
    (∀ a, arg = some a → fval - a.2 = best) →
    let r := pollBest fval es best arg
    best ≤ r.1 ∧ (∀ e ∈ es, fval - e.2 ≤ r.1) ∧
    (∀ a, r.2 = some a → (a ∈ es ∨ arg = some a) ∧ fval - a.2 = r.1) ∧ (r.2 = none → r.1 = best) := by
  intro es best arg h
  rw [pollBest_eq_bestFold]
  rcases bestFold_cases (fun e => fval - e.2) es best arg with ⟨hr, hle⟩ | ⟨x, hx, hr, hlt, hmax⟩
  · rw [hr]
    exact ⟨le_refl _, hle, fun a ha => ⟨Or.inr ha, h a ha⟩, fun _ => rfl⟩
  · rw [hr]
    refine ⟨le_of_lt hlt, hmax, ?_, fun hn => by cases hn⟩
    intro a ha
    cases ha
    exact ⟨Or.inl hx, rfl⟩

/-- A search is a poll of at most one point. -/
theorem step_eq_pollUpdate (s : St) (ev : Ev) : step s ev = pollUpdate s (evalsOf ev) := by
  rcases ev with (_ | ⟨u, y⟩) | es
  · rfl
  · by_cases h : s.fval - y > 0 <;> simp [step, searchUpdate, pollUpdate, evalsOf, pollBest, h]
  · rfl

theorem step_cases (s : St) (ev : Ev) :
    (step s ev = s ∧ ∀ e ∈ evalsOf ev, s.fval ≤ e.2) ∨
    ∃ e ∈ evalsOf ev, step s ev = { u := e.1, fval := e.2 } ∧ e.2 < s.fval ∧ ∀ e' ∈ evalsOf ev, e.2 ≤ e'.2 := by
  simp only [step_eq_pollUpdate, pollUpdate, pollBest_eq_bestFold]
  rcases bestFold_cases (s.fval - ·.2) (evalsOf ev) 0 none with ⟨hr, hle⟩ | ⟨e, he, hr, hlt, hmax⟩
  · rw [hr]
    exact Or.inl ⟨rfl, fun e he => sub_nonpos.mp (hle e he)⟩
  · rw [hr]
    exact Or.inr ⟨e, he, if_pos hlt, (Rat.lt_iff_sub_pos _ _).mpr hlt,
      fun e' he' => (sub_le_sub_iff_left _).mp (hmax e' he')⟩

theorem inc_step (s : St) (evals : List (Pt × Rat)) (ev : Ev) (h : Inv s evals) :
    Inv (step s ev) (evals ++ evalsOf ev) := by
  obtain ⟨h1, h2⟩ := h
  rcases step_cases s ev with ⟨hs, hle⟩ | ⟨x, hx, hs, hlt, hmin⟩
  · rw [hs]
    exact ⟨List.mem_append_left _ h1, List.forall_mem_append.mpr ⟨h2, hle⟩⟩
  · rw [hs]
    exact ⟨List.mem_append_right _ hx,
      List.forall_mem_append.mpr ⟨fun e he => le_trans (le_of_lt hlt) (h2 e he), hmin⟩⟩

theorem inc_search (s : St) (evals : List (Pt × Rat)) (e : Option (Pt × Rat)) (h : Inv s evals) :
    Inv (searchUpdate s e) (evals ++ evalsOf (.search e)) :=
  inc_step s evals (.search e) h

theorem inc_poll (s : St) (evals : List (Pt × Rat)) (es : List (Pt × Rat)) (h : Inv s evals) :
    Inv (pollUpdate s es) (evals ++ evalsOf (.poll es)) :=
  inc_step s evals (.poll es) h

/-- Everything evaluated during a list of events. -/
def allEvals : List Ev → List (Pt × Rat)
  | [] => []
  | e :: es => evalsOf e ++ allEvals es

/-- EVERY REACHABLE STATE: after any sequence of search and poll steps the incumbent is an
    evaluated pair whose value is minimal among all evaluations of the run. -/
theorem inc_reachable : ∀ (evs : List Ev) (s : St) (evals : List (Pt × Rat)), Inv s evals →
    Inv (run s evs) (evals ++ allEvals evs) := by
  intro evs
  induction evs with
  | nil => exact fun s evals h => (List.append_nil evals).symm ▸ h
  | cons e es ih =>
    intro s evals h
    rw [allEvals, ← List.append_assoc]
    exact ih (step s e) _ (inc_step s evals e h)

/-- RESULT TRUTHFUL: the returned point was evaluated, the returned value is the value observed
    there, and nothing evaluated in the whole run is strictly better. -/
theorem result_truthful (init : List (Pt × Rat)) (s0 : St) (h0 : initInc init = some s0) (evs : List Ev) :
    let r := run s0 evs
    (r.u, r.fval) ∈ init ++ allEvals evs ∧ ∀ e ∈ init ++ allEvals evs, r.fval ≤ e.2 :=
  inc_reachable evs s0 init (inc_init init s0 h0)

theorem step_fval_le (s : St) (e : Ev) : (step s e).fval ≤ s.fval := by
  rcases step_cases s e with ⟨hs, _⟩ | ⟨x, _, hs, hlt, _⟩
  · rw [hs]
  · rw [hs]
    exact le_of_lt hlt

/-- The recorded incumbent value never increases. -/
theorem hist_fval_antitone : ∀ (evs : List Ev) (s : St), List.Pairwise (fun a b => b ≤ a) (s.fval :: fvals s evs)
  | [], s => List.pairwise_singleton _ _
  | e :: es, s => by
    have ih := hist_fval_antitone es (step s e)
    have hle := step_fval_le s e
    refine List.pairwise_cons.mpr ⟨List.forall_mem_cons.mpr ⟨hle, fun b hb => ?_⟩, ih⟩
    exact le_trans ((List.pairwise_cons.mp ih).1 b hb) hle

/-- NEVER WORSE THAN THE START (the per-run clause of C06): the final value is at most the value
    at the (mesh-snapped) starting point, which is the first evaluation. -/
theorem never_worse_than_start (u0 : Pt) (y0 : Rat) (rest : List (Pt × Rat)) (s0 : St)
    (h0 : initInc ((u0, y0) :: rest) = some s0) (evs : List Ev) : (run s0 evs).fval ≤ y0 :=
  (result_truthful ((u0, y0) :: rest) s0 h0 evs).2 (u0, y0) (by simp)

/-! Non-vacuity: a plateau with ties - the first minimal point is kept, an equal value does not move the incumbent. -/
example :
    initInc [([0], 3), ([1], 2), ([2], 2)] = some { u := [1], fval := 2 } ∧
    run { u := [1], fval := 2 } [.search (some ([5], 2)), .poll [([6], 2), ([7], 1), ([8], 1)], .search none] = { u := [7], fval := 1 } := by
  constructor <;> decide +kernel

end Bads.Inc
