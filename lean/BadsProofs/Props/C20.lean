/-
  C20 - Options: user settings win, unknown names are rejected.

  For every pair of option files (any names, any default expressions), every evaluation oracle,
  every dimension and every set of user overrides.
-/
import BadsProofs.Lemmas.AssocLemmas
import Generated.Defaults

namespace Bads.Opt

variable {V T : Type}

theorem lookup_insert_same (a : Assoc V) (k : String) (v : V) : lookup (insert a k v) k = some v := by
  rw [lookup_insert, if_pos rfl]

theorem find_map_other (k k' : String) (v : V) (hne : (k == k') = false) : ∀ a : Assoc V,
    ((a.map (fun e => if e.1 == k then (k, v) else e)).find? (fun e => e.1 == k')).map (·.2) =
      (a.find? (fun e => e.1 == k')).map (·.2) :=
  fun a => (lookup_map_set a k k' v).trans (if_neg (of_decide_eq_false hne))

theorem lookup_insert_other (a : Assoc V) (k k' : String) (v : V) (hne : k' ≠ k) : lookup (insert a k v) k' = lookup a k' := by
  rw [lookup_insert, if_neg (Ne.symm hne)]

/-- loading a file never touches a protected name -/
theorem loadFile_protected (ev : T → Assoc V → Nat → V) (D : Nat) (prot : List String) (k : String) (hk : prot.contains k = true) :
    ∀ (es : List (String × T)) (o : Assoc V), lookup (loadFile ev D prot es o) k = lookup o k :=
  fun es o => lookup_loadFile_frame ev D prot k es o (Or.inl (List.contains_iff_mem.mp hk))

theorem update_last_wins : ∀ (user : Assoc V) (o : Assoc V) (k : String) (v : V),
    (∀ v', (k, v') ∈ user → v' = v) → (k, v) ∈ user → lookup (update o user) k = some v :=
  fun user o k v huniq hmem => (lookup_update k v user o huniq).trans (if_pos (List.mem_map_of_mem hmem))

/-- USER WINS: an option supplied by the user has exactly the supplied value after loading - it is
    never overwritten by a default of either file (for a user dict, i.e. one value per name). -/
theorem user_wins (ev : T → Assoc V → Nat → V) (D : Nat) (basic adv : File T) (user : Assoc V) (k : String) (v : V)
    (hmem : (k, v) ∈ user) (huniq : ∀ v', (k, v') ∈ user → v' = v) :
    lookup (load ev D basic adv user) k = some v :=
  (lookup_loadFile_frame ev D _ k _ _ (Or.inl (List.mem_map_of_mem hmem))).trans (update_last_wins user _ k v huniq hmem)

/-- value of `k` after loading a file in which `k` is not protected and occurs (last) with token `tok`:
    its default expression evaluated in SOME environment reached while loading -/
theorem loadFile_default (ev : T → Assoc V → Nat → V) (D : Nat) (prot : List String) (k : String) (hk : prot.contains k = false) :
    ∀ (es : List (String × T)) (o : Assoc V), k ∈ es.map (·.1) →
      ∃ tok env, (k, tok) ∈ es ∧ lookup (loadFile ev D prot es o) k = some (ev tok env D) := by
  intro es
  induction es with
  | nil => exact fun _ h => nomatch h
  | cons e rest ih =>
    intro o h
    rw [loadFile_cons]
    by_cases hin : k ∈ rest.map (·.1)
    · obtain ⟨tok, env, h1, h2⟩ := ih _ hin
      exact ⟨tok, env, List.mem_cons_of_mem _ h1, h2⟩
    · -- this entry is the last one for `k`: it is not skipped, and the rest leaves it alone
      have hp : k ∉ prot := by simpa only [List.contains_eq_mem, decide_eq_false_iff_not] using hk
      obtain rfl : k = e.1 := (List.mem_cons.mp h).resolve_right hin
      refine ⟨e.2, o, List.mem_cons_self, ?_⟩
      rw [lookup_loadFile_frame ev D prot _ rest _ (Or.inr hin), if_neg hp, lookup_insert_same]

/-- DEFAULT OTHERWISE: an option of the advanced file that the user did not set has its default
    expression's value for THIS instance's dimension `D` ... -/
theorem default_otherwise (ev : T → Assoc V → Nat → V) (D : Nat) (basic adv : File T) (user : Assoc V) (k : String)
    (hnu : k ∉ user.map (·.1)) (hadv : k ∈ adv.entries.map (·.1)) :
    ∃ tok env, (k, tok) ∈ adv.entries ∧ lookup (load ev D basic adv user) k = some (ev tok env D) :=
  loadFile_default ev D _ k (by simpa only [List.contains_eq_mem, decide_eq_false_iff_not] using hnu) adv.entries _ hadv

/-- ... and DEPENDENT DEFAULTS SEE THE USER'S VALUES: every environment in which an advanced-file
    default is evaluated already holds each user-supplied option with the user's value. -/
theorem env_has_user_values (ev : T → Assoc V → Nat → V) (D : Nat) (user : Assoc V) (k : String) (v : V)
    (hmem : (k, v) ∈ user) :
    ∀ (es : List (String × T)) (o : Assoc V), lookup o k = some v →
      lookup (loadFile ev D (user.map (·.1)) es o) k = some v :=
  fun es o ho => (lookup_loadFile_frame ev D _ k es o (Or.inl (List.mem_map_of_mem hmem))).trans ho

/-- UNKNOWN NAMES REJECTED: a user option whose name occurs in neither file makes validation fail. -/
theorem unknown_rejected (ev : T → Assoc V → Nat → V) (D : Nat) (basic adv : File T) (user : Assoc V) (k : String) (v : V)
    (hmem : (k, v) ∈ user) (huniq : ∀ v', (k, v') ∈ user → v' = v)
    (hunk : k ∉ basic.entries.map (·.1) ++ adv.entries.map (·.1)) :
    (validate (load ev D basic adv user) basic adv).isSome = true := by
  unfold validate
  rw [List.find?_isSome]
  refine ⟨k, mem_keys_of_lookup (user_wins ev D basic adv user k v hmem huniq), ?_⟩
  simpa only [List.contains_eq_mem, Bool.not_eq_eq_eq_not, Bool.not_true, decide_eq_false_iff_not] using hunk

/-- The shipped option files: the names the theorems' hypotheses talk about exist, and the two
    files do not define a name twice (re-proved from the regenerated name lists). -/
theorem shipped_files_wellformed :
    ("max_fun_evals" ∈ Generated.basicOptionNames ∧ "tol_fun" ∈ Generated.advancedOptionNames ∧ "tol_noise" ∈ Generated.advancedOptionNames) ∧
    (Generated.basicOptionNames ++ Generated.advancedOptionNames).Nodup := by
  constructor
  · decide +kernel
  · -- On numeric keys: the kernel compares two numerals in one step and two `String`s byte by
    -- byte, so `decide` on the names themselves is slow to check.
    exact nodup_of_distinct_keys (by decide +kernel)

/-! Non-vacuity: a dependent default (`b = 2 * a`) sees the user's `a`; an unknown name is rejected. -/
example :
    let ev : String → Assoc Nat → Nat → Nat := fun tok env D =>
      if tok == "2*a" then 2 * (lookup env "a").getD 0 else if tok == "D" then D else tok.toNat!
    let basic : File String := ⟨[("a", "1")]⟩
    let adv : File String := ⟨[("b", "2*a"), ("c", "D")]⟩
    load ev 3 basic adv [("a", 10)] = [("a", 10), ("b", 20), ("c", 3)] ∧
    validate (load ev 3 basic adv [("zz", 1)]) basic adv = some "zz" ∧ validate (load ev 3 basic adv [("a", 10)]) basic adv = none := by
  decide +kernel

end Bads.Opt
