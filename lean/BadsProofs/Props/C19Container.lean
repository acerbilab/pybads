/-
  C19 (container level) - IterationHistory / OptimizeResult: for arbitrary record/overwrite
  sequences (keys, iteration indices, values).
-/
import BadsProofs.Lemmas.AssocLemmas

namespace Bads.Hist

variable {V : Type}

theorem lookup_store_same (d : List (String × List (Option V))) (key : String) (slots : List (Option V)) :
    ((store d key slots).find? (fun e => e.1 == key)).map (·.2) = some slots := by
  rw [store_eq_insert]
  exact (Opt.lookup_insert d key key slots).trans (if_pos rfl)

theorem find_map_other (key k' : String) (slots : List (Option V)) (hne' : (key == k') = false) :
    ∀ d : List (String × List (Option V)),
    ((d.map (fun e => if e.1 == key then (key, slots) else e)).find? (fun e => e.1 == k')).map (·.2) =
      (d.find? (fun e => e.1 == k')).map (·.2) :=
  -- `==` on `String` is `decide (_ = _)`; the `BEq` lemmas would have to find `ReflBEq String` first, which is dear
  fun d => (Opt.lookup_map_set d key k' slots).trans (if_neg (of_decide_eq_false hne'))

theorem lookup_store_other (d : List (String × List (Option V))) (key k' : String) (slots : List (Option V))
    (hne : (k' == key) = false) :
    ((store d key slots).find? (fun e => e.1 == k')).map (·.2) = (d.find? (fun e => e.1 == k')).map (·.2) := by
  rw [store_eq_insert]
  exact (Opt.lookup_insert d key k' slots).trans (if_neg fun h => of_decide_eq_false hne h.symm)

theorem setSlot_get (l : List (Option V)) (i : Nat) (v : V) : (setSlot l i v)[i]? = some (some v) := by
  unfold setSlot
  apply List.getElem?_set_self
  split
  · rw [List.length_append, List.length_replicate, Nat.add_sub_cancel' (Nat.le_succ_of_le ‹_›)]
    exact Nat.lt_succ_self i
  · exact Nat.lt_of_not_le ‹_›

theorem setSlot_get_ne (l : List (Option V)) (i j : Nat) (v : V) (hne : j ≠ i) :
    ((setSlot l i v)[j]?).join = (l[j]?).join := by
  unfold setSlot
  rw [List.getElem?_set_ne (Ne.symm hne)]
  split
  · -- a padding slot reads `none`, as does a slot beyond the end
    rw [List.getElem?_append]
    split
    · rfl
    · rw [List.getElem?_eq_none (by omega : l.length ≤ j), List.getElem?_replicate]
      split <;> rfl
  · rfl

/-- READ BACK: what was recorded for `(key, it)` is what is read there afterwards. -/
theorem get_record (h h' : H V) (key : String) (v : V) (it : Int) (hr : record h key v it = .ok h') :
    get h' key it.toNat = some v := by
  rw [get_eq, lookup_record hr, if_pos rfl, Option.getD_some, setSlot_get, Option.join_some]

/-- FRAME: recording `(key, it)` changes no other key and no other iteration of the same key. -/
theorem record_frame (h h' : H V) (key : String) (v : V) (it : Int) (hr : record h key v it = .ok h')
    (k' : String) (j : Nat) (hne : k' ≠ key ∨ j ≠ it.toNat) : get h' k' j = get h k' j := by
  rw [get_eq, get_eq, lookup_record hr]
  by_cases hk : key = k'
  · subst hk
    rw [if_pos rfl, Option.getD_some, setSlot_get_ne _ _ _ _ (hne.resolve_left fun hk => hk rfl)]
  · rw [if_neg hk]

/-- ERRORS: a negative iteration or a key that was not declared is rejected and nothing is stored. -/
theorem record_errors (h : H V) (key : String) (v : V) (it : Int) :
    (it < 0 → record h key v it = .error .valueError) ∧
    (h.keys.contains key = false → record h key v it = .error .valueError) := by
  constructor
  · intro hlt; simp [record, hlt]
  · intro hk
    rw [record, hk, if_pos Bool.not_false, ite_self]

/-- The declared key set never changes. -/
theorem record_keys (h h' : H V) (key : String) (v : V) (it : Int) (hr : record h key v it = .ok h') :
    h'.keys = h.keys := by
  rw [record_ok hr]

/-- Unknown keys are rejected with ValueError; nothing is stored. -/
theorem res_set_unknown (r : Res V) (key : String) (v : V) (h : r.allowed.contains key = false) :
    r.set key v = .error .valueError := by
  rw [Res.set, h]
  rfl

/-- A field reads the same by key and by attribute; a missing field is KeyError by key and
    AttributeError by attribute. -/
theorem res_get_agree (r : Res V) (key : String) :
    (∀ v, r.getItem key = .ok v ↔ r.getAttr key = .ok v) ∧
    (r.getItem key = .error .keyError ↔ r.getAttr key = .error .attributeError) := by
  unfold Res.getAttr
  cases hg : r.getItem key with
  | ok v => simp
  | error e =>
    unfold Res.getItem at hg
    split at hg
    · cases hg
    · cases hg; simp

theorem res_set_get (r r' : Res V) (key : String) (v : V) (h : r.set key v = .ok r') :
    r'.getItem key = .ok v := by
  unfold Res.set at h
  split at h
  · cases h
  · cases h
    have hnone : (r.items.filter (fun e => e.1 != key)).find? (fun e => e.1 == key) = none :=
      List.find?_eq_none.mpr fun e he => Bool.not_eq.mp (List.mem_filter.mp he).2
    simp [Res.getItem, hnone]

/-! Non-vacuity -/
example :
    let h0 : H Nat := { keys := ["u", "fval"], data := [] }
    (match record h0 "fval" 7 2 with
     | .ok h1 => (get h1 "fval" 2, get h1 "fval" 0, get h1 "u" 2, slotsLen h1 "fval")
     | .error _ => (none, none, none, 0)) = (some 7, none, none, 3) ∧
    (match record h0 "nokey" 1 0 with | .error e => decide (e = Err.valueError) | .ok _ => false) = true := by
  decide +kernel

end Bads.Hist
