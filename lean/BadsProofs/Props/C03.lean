/-
  C03 - optimize() terminates within the evaluation budget and counts honestly.

  Theorems about `Ctl.step`/`Ctl.run`, the model of the main loop's control skeleton, for
  EVERY oracle stream of search and poll outcomes (all sequences of empty / failure /
  incremental / success searches and 0..2D-evaluation polls, including those no finite
  sample of runs exhibits).  Termination of the IMPLEMENTATION additionally needs every
  oracle call (GP fit, ES, the user's target) to return; that is outside the model.
-/
import BadsProofs.Lemmas.CtlLemmas
import Generated.Defaults

namespace Bads.Ctl

/-- Hypothesis on the option files (re-proved from the regenerated defaults on every run). -/
def HypC03 (d : Generated.Defaults) : Prop := 1 ≤ d.search_n_try ∧ d.stobads = false ∧ 1 ≤ d.max_iter

theorem defaults_satisfy_HypC03 : ∀ d ∈ Generated.defaults, HypC03 d := by
  unfold HypC03; decide +kernel

/-- The loop-entry state satisfies the invariants. -/
theorem init_inv (o : Opts) (fc0 nRec0 : Nat) (msi0 : Int) : CInv o (init o fc0 nRec0 msi0).c := by
  simp [CInv, init]

theorem init_binv (o : Opts) (fc0 nRec0 : Nat) (msi0 : Int) (h : fc0 ≤ o.budget) :
    BInv o (init o fc0 nRec0 msi0).c := by
  simp [BInv, init, h]

/-- The counters of `step` evolve by `cstep` (by construction). -/
theorem step_c (o : Opts) (s : St) (out : Out) : (step o s out).c = cstep o s.c (coutOf o s out) := rfl

theorem run_finished (o : Opts) (oracle : Nat → Out) (n : Nat) (s : St) (h : s.c.finished = true) :
    run o oracle n s = s := by
  cases n <;> simp [run, h]

/-- Invariants hold in every reachable state. -/
theorem run_inv (o : Opts) (hn : 1 ≤ o.nTry) :
    ∀ (n : Nat) (oracle : Nat → Out) (s : St), CInv o s.c → CInv o (run o oracle n s).c :=
  run_induction o (fun s => CInv o s.c) (fun s _ _ h => cstep_inv o s.c _ h)

/-- BUDGET: in every reachable state the number of target calls is at most the budget
    (given that the initial design did not already exceed it). -/
theorem budget_inv (o : Opts) (hn : 1 ≤ o.nTry) :
    ∀ (n : Nat) (oracle : Nat → Out) (s : St), BInv o s.c → (run o oracle n s).c.fc ≤ o.budget :=
  fun n oracle s h => (run_induction o (fun s => BInv o s.c) (fun s _ hf h => cstep_binv o s.c _ h hf) n oracle s h).1

/-- Noisy targets reserve `reserve = min nfs (B - fc0)` evaluations before the loop and spend at
    most that many afterwards: the total never exceeds the user's budget `B`. -/
theorem total_calls_le (B fc0 nfs fcFinal finalSamples : Nat) (h0 : fc0 ≤ B)
    (hloop : fcFinal ≤ B - min nfs (B - fc0)) (hfin : finalSamples ≤ min nfs (B - fc0)) :
    fcFinal + finalSamples ≤ B := by
  -- the reserve is at most `B`, so what the loop may use and the reserve add up to `B` (whatever `fc0`)
  have hr : min nfs (B - fc0) ≤ B := Nat.le_trans (Nat.min_le_right _ _) (Nat.sub_le _ _)
  generalize min nfs (B - fc0) = r at *
  omega

/-- The reserve never pushes the loop budget below the initial design size. -/
theorem reserve_keeps_init (B fc0 nfs : Nat) (h0 : fc0 ≤ B) : fc0 ≤ B - min nfs (B - fc0) :=
  Nat.le_sub_of_add_le (Nat.add_le_of_le_sub' h0 (Nat.min_le_right _ _))

/-- POLL ITERATIONS: `poll_iteration ≤ max_iter - 1` in every reachable state, i.e. at most
    `max_iter` poll steps are ever executed. -/
theorem poll_iters_le (o : Opts) :
    ∀ (n : Nat) (oracle : Nat → Out) (s : St), s.c.pollIter + 1 ≤ max o.maxIter 1 →
      (run o oracle n s).c.pollIter + 1 ≤ max o.maxIter 1 :=
  run_induction o (fun s => s.c.pollIter + 1 ≤ max o.maxIter 1) (fun s _ _ h => cstep_pollIter_le o s.c _ h)

/-- NO IDLE ITERATION: an iteration of the loop always runs a search or a poll. -/
theorem no_idle_iteration (o : Opts) (s : St) (out : Out) (h : CInv o s.c) :
    ranSearch o s = true ∨ ranPoll o s out = true :=
  no_idle o s.c out.search h

/-- TERMINATION with an explicit bound, for every oracle stream: after at most
    `rank + 1` iterations the loop has finished. -/
theorem terminates_from (o : Opts) (hn : 1 ≤ o.nTry) :
    ∀ (n : Nat) (oracle : Nat → Out) (s : St), CInv o s.c → rank o s.c < n →
      (run o oracle n s).c.finished = true := by
  intro n oracle s hinv hr
  rw [run_eq_whileRun]
  exact whileRun_finished (fun s : St => s.c.finished) (step o) (fun s => CInv o s.c) (fun s => rank o s.c)
    (fun s out hi _ => step_rank o s out hi)
    ((List.range n).map oracle) s hinv (by simpa using hr)

theorem rank_init_le (o : Opts) (fc0 nRec0 : Nat) (msi0 : Int) :
    rank o (init o fc0 nRec0 msi0).c ≤ (o.nTry + 1) * (o.maxIter + o.budget) := by
  simp only [rank, X, Y, init, Nat.lt_irrefl, if_false, Nat.sub_self, Nat.add_zero]
  exact Nat.mul_le_mul_left _ (Nat.add_le_add (Nat.sub_le _ _) (Nat.sub_le _ _))

/-- TERMINATION of a whole run: for all oracle streams the loop finishes within
    `(nTry+1)·(maxIter + budget) + 1` iterations. -/
theorem terminates (o : Opts) (hn : 1 ≤ o.nTry) (oracle : Nat → Out) (fc0 nRec0 : Nat) (msi0 : Int) :
    ∃ n ≤ (o.nTry + 1) * (o.maxIter + o.budget) + 1,
      (run o oracle n (init o fc0 nRec0 msi0)).c.finished = true :=
  ⟨_, Nat.le_refl _, terminates_from o hn _ oracle _ (init_inv o fc0 nRec0 msi0)
    (Nat.lt_succ_of_le (rank_init_le o fc0 nRec0 msi0))⟩

/-- MESSAGE: the termination message names a stopping condition that holds at exit. -/
theorem msg_sound (o : Opts) (s : St) (out : Out) :
    msgSound o (step o s out).c (decide ((step o s out).m.msi < o.tolExp)) out.stallStop = true :=
  cstep_msg_sound o s.c (coutOf o s out)

/-- The count only grows, and by at most `1 + 2D` per iteration. -/
theorem fc_mono (o : Opts) (s : St) (out : Out) : s.c.fc ≤ (step o s out).c.fc :=
  cstep_fc_mono o s.c _

/-! Non-vacuity: a concrete option set and state satisfying the hypotheses. -/
example : let o : Opts := { D := 2, nTry := 4, budget := 50, maxIter := 400, skip := true, cap := 0, sgm := 2,
                            sgn := 10, locked := true, accel := true, accelSteps := 3, stallIters := 5,
                            tolExp := -19, expand := 0, incr := 1 }
    1 ≤ o.nTry ∧ CInv o (init o 5 4 0).c ∧ BInv o (init o 5 4 0).c := by
  refine ⟨by decide, init_inv _ _ _ _, init_binv _ _ _ _ (by decide)⟩

end Bads.Ctl
