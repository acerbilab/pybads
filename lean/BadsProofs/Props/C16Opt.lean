/-
  C16 over ONE WHOLE CALL of `optimize()` (model `Opt`): the outcome of every GP hyper-parameter fit of a whole call - the initial fit after the
  design, every periodic and local refit, success or failure, once or many times in a row, the hyper-parameters and predictions that result -
  enters the whole-call model only through ORACLE inputs that the theorems quantify universally (the estimates `(f, sd)` of the evaluated
  candidates, the acquisition picks `searchPick` / `pollOrder`, the threshold, the stall flags, the re-estimated history values, the predictive
  SD at the first incumbent).  So the whole-call guarantees hold verbatim for calls in which fits fail; they are re-exported here, in one
  statement, so that C16's audit covers them.
-/
import BadsProofs.Props.C03Opt
import BadsProofs.Props.C13Opt
import BadsProofs.Props.C19Opt

namespace Bads.Opt

/-- WHATEVER THE FITS DO (every oracle stream `io`, `qs`, `fo`): a whole call stays within the budget and counts honestly, calls the target only
    at feasible points of the hard box, leaves its loop finished once the oracle stream is long enough, keeps its mesh invariant, and returns a
    point it evaluated. -/
theorem whole_call_guarantees_survive_fit_failures (e : Env) (hb : boxOK e.full.pipe.lb e.full.pipe.ub = true) (hn : 1 ≤ e.full.o.nTry)
    (h0 : e.msi0 ≤ e.full.o.cap) (hs : e.full.o.sgm = 2) (hc : e.full.o.cap ≤ e.full.o.sgn)
    (io : InitOrc) (hi : InitOK e io) (hf : Fits e io) (qs : List Full.Orc) (hq : RunOK e io qs) (fo : FinalOrc) :
    ((optimize e io qs fo).calls.length ≤ e.full.o.budget ∧ (optimize e io qs fo).funcCount = (optimize e io qs fo).calls.length) ∧
    (∀ c ∈ (optimize e io qs fo).calls, InBox e.full.pipe.lb e.full.pipe.ub c.1 ∧ (∀ cf, e.full.pipe.cons = some cf → cf c.1 = false)) ∧
    ((e.full.o.nTry + 1) * (e.full.o.maxIter + e.full.o.budget) < qs.length → (optimize e io qs fo).loop.ctl.c.finished = true) ∧
    ((optimize e io qs fo).loop.ctl.m.msi ≤ e.full.o.cap ∧
      (2 : Rat) ^ (optimize e io qs fo).loop.ctl.m.ssi ≤ (2 : Rat) ^ (optimize e io qs fo).loop.ctl.m.msi) ∧
    (∃ c ∈ (optimize e io qs fo).calls, c.1 = (optimize e io qs fo).u) :=
  ⟨optimize_budget e hb hn io hi hf qs hq fo,
   optimize_calls_ok e hb hn io hi hf qs hq fo,
   optimize_terminates e hn io qs fo,
   optimize_mesh_inv e io h0 hs hc _ (optimize_reach e io qs fo),
   optimize_returned_called e hb hn io hi hf qs hq fo⟩

end Bads.Opt
