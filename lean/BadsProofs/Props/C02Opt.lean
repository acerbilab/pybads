/-
  C02 over ONE WHOLE CALL of `optimize()` (model `Opt`): no target call of a whole call - initial design, search steps, poll steps, final
  re-sampling - is made at a point for which the non-box constraint reports a violation, and the returned point is feasible.
-/
import BadsProofs.Props.C03Opt
import BadsProofs.Props.C05Opt

namespace Bads.Opt

theorem optimize_calls_feasible (e : Env) (hb : boxOK e.full.pipe.lb e.full.pipe.ub = true) (hn : 1 ≤ e.full.o.nTry)
    (io : InitOrc) (hi : InitOK e io) (hf : Fits e io) (qs : List Full.Orc) (hq : RunOK e io qs) (fo : FinalOrc)
    (cf : Pt → Bool) (hcf : e.full.pipe.cons = some cf) :
    ∀ c ∈ (optimize e io qs fo).calls, cf c.1 = false :=
  fun c hc => (optimize_calls_ok e hb hn io hi hf qs hq fo c hc).2 cf hcf

theorem optimize_returned_feasible (e : Env) (hb : boxOK e.full.pipe.lb e.full.pipe.ub = true) (hn : 1 ≤ e.full.o.nTry)
    (io : InitOrc) (hi : InitOK e io) (hf : Fits e io) (qs : List Full.Orc) (hq : RunOK e io qs) (fo : FinalOrc)
    (cf : Pt → Bool) (hcf : e.full.pipe.cons = some cf) :
    cf (optimize e io qs fo).u = false :=
  (loop_inv e hb hn io hi hf qs hq fo).2.2.1 cf hcf _ (returned_x_evaluated e hb hn io hi hf qs hq fo)

/-- an infeasible start point is not a valid initial oracle: `InitOK` (what `BADS(...)`/`_init_mesh_` check before the first call) fails -/
theorem infeasible_start_not_initOK (e : Env) (io : InitOrc) (cf : Pt → Bool) (hcf : e.full.pipe.cons = some cf) (hbad : cf io.u0 = true) :
    ¬ InitOK e io :=
  fun h => Bool.noConfusion ((h.2.1 cf hcf).symm.trans hbad)

end Bads.Opt
