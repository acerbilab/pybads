/-
  C11 - The variable transform is a faithful, order-preserving bijection onto the unit box.

  Exact-arithmetic theorems for an arbitrary scale pair `(φ, ψ)`: `φ` strictly increasing on its
  domain `dom` with `ψ ∘ φ = id` there and `φ ∘ ψ = id` (instances: the identity on all rationals,
  proved here; `Real.log`/`Real.exp` on the positive reals is the intended reading for a
  log-transformed coordinate).  Floating-point error of the round trip is MEASURED by the check
  (property's bound: 1e-9 of the box width), not proved.
-/
import BadsModel.Transform
import BadsProofs.Lemmas.NumLemmas
import Mathlib.Tactic.Ring

namespace Bads.Tr

structure Scale (φ ψ : Rat → Rat) (dom : Rat → Prop) : Prop where
  mono : ∀ a b, dom a → dom b → a < b → φ a < φ b
  left : ∀ a, dom a → ψ (φ a) = a
  right : ∀ t, φ (ψ t) = t
  range : ∀ t, dom (ψ t)

/-- the affine case: `φ = ψ = id` on all rationals -/
theorem scale_id : Scale id id (fun _ => True) :=
  ⟨fun _ _ _ _ h => h, fun _ _ => rfl, fun _ => rfl, fun _ => trivial⟩

theorem scale_mono_le {φ ψ : Rat → Rat} {dom : Rat → Prop} (S : Scale φ ψ dom) (a b : Rat) (ha : dom a) (hb : dom b)
    (h : a ≤ b) : φ a ≤ φ b := by
  rcases h.lt_or_eq with h | h
  · exact le_of_lt (S.mono a b ha hb h)
  · rw [h]

theorem gAff_mono (c : Coord) (hg : 0 < c.gamma) (s t : Rat) (h : s ≤ t) : gAff c s ≤ gAff c t := by
  unfold gAff
  -- `a / b` on ℚ is `a * b⁻¹` by definition; the `Rat.` lemmas need no instance search
  exact Rat.mul_le_mul_of_nonneg_right (sub_le_sub_right h _) (Rat.inv_nonneg hg.le)

theorem gAff_strictMono (c : Coord) (hg : 0 < c.gamma) (s t : Rat) (h : s < t) : gAff c s < gAff c t := by
  unfold gAff
  exact Rat.mul_lt_mul_of_pos_right (sub_lt_sub_right h _) (Rat.inv_pos.mpr hg)

theorem ginv_g (c : Coord) (hg : c.gamma ≠ 0) (t : Rat) : ginvAff c (gAff c t) = t := by
  unfold ginvAff gAff
  rw [mul_div_cancel₀ _ hg, sub_add_cancel]

/-- PLAUSIBLE BOUNDS map to -1 and +1. -/
theorem call_plb_pub (φ : Rat → Rat) (isLog : Bool) (lb ub : Ext) (plb pub : Rat) (h : φ plb < φ pub) :
    gAff (mkCoord φ isLog lb ub plb pub) (φ plb) = -1 ∧ gAff (mkCoord φ isLog lb ub plb pub) (φ pub) = 1 := by
  have hγ : (φ pub - φ plb) / 2 ≠ 0 := div_ne_zero (sub_ne_zero.mpr h.ne') (by decide)
  simp only [gAff, mkCoord, div_eq_iff hγ]
  constructor
  · ring
  · ring

/-- the domain contains the original bounds -/
def DomBounds (dom : Rat → Prop) (c : Coord) : Prop :=
  (∀ a, c.origLo = .fin a → dom a) ∧ (∀ b, c.origHi = .fin b → dom b)

def inOrig (c : Coord) (x : Rat) : Prop := geLo c.origLo x ∧ leHi c.origHi x

theorem g_in_box {φ ψ : Rat → Rat} {dom : Rat → Prop} (S : Scale φ ψ dom) (c : Coord) (hg : 0 < c.gamma)
    (hd : DomBounds dom c) (x : Rat) (hx : dom x) (hin : inOrig c x) :
    geLo (lbT φ c) (gAff c (φ x)) ∧ leHi (ubT φ c) (gAff c (φ x)) := by
  obtain ⟨h1, h2⟩ := hin
  unfold lbT ubT
  constructor
  · generalize hlo : c.origLo = lo at h1 ⊢
    cases lo with
    | fin a => exact gAff_mono c hg _ _ (scale_mono_le S a x (hd.1 a hlo) hx h1)
    | _ => exact h1
  · generalize hhi : c.origHi = hi at h2 ⊢
    cases hi with
    | fin b => exact gAff_mono c hg _ _ (scale_mono_le S x b hx (hd.2 b hhi) h2)
    | _ => exact h2

/-- ROUND TRIP: a point inside the hard bounds is mapped to internal coordinates and back to
    itself (exactly, in exact arithmetic). -/
theorem roundtrip {φ ψ : Rat → Rat} {dom : Rat → Prop} (S : Scale φ ψ dom) (c : Coord) (hg : 0 < c.gamma)
    (hd : DomBounds dom c) (x : Rat) (hx : dom x) (hin : inOrig c x) :
    inverse ψ c (call φ c x) = x := by
  obtain ⟨hb1, hb2⟩ := g_in_box S c hg hd x hx hin
  unfold inverse call
  rw [clampE_id _ _ _ hb1 hb2, ginv_g c hg.ne', S.left x hx]
  exact clampE_id _ _ _ hin.1 hin.2

theorem clampE_mono (l h : Ext) (x y : Rat) (hxy : x ≤ y) : clampE l h x ≤ clampE l h y := by
  rw [clampE_eq, clampE_eq]
  exact clampLo_mono l (clampHi_mono h hxy)

/-- ORDER PRESERVING: the forward map never reverses the order of two points of the domain. -/
theorem call_mono {φ ψ : Rat → Rat} {dom : Rat → Prop} (S : Scale φ ψ dom) (c : Coord) (hg : 0 < c.gamma)
    (x y : Rat) (hx : dom x) (hy : dom y) (hxy : x ≤ y) : call φ c x ≤ call φ c y := by
  unfold call
  exact clampE_mono _ _ _ _ (gAff_mono c hg _ _ (scale_mono_le S x y hx hy hxy))

/-- ... strictly inside the box ... -/
theorem call_strictMono_inside {φ ψ : Rat → Rat} {dom : Rat → Prop} (S : Scale φ ψ dom) (c : Coord) (hg : 0 < c.gamma)
    (hd : DomBounds dom c) (x y : Rat) (hx : dom x) (hy : dom y) (hix : inOrig c x) (hiy : inOrig c y) (hxy : x < y) :
    call φ c x < call φ c y := by
  obtain ⟨a1, a2⟩ := g_in_box S c hg hd x hx hix
  obtain ⟨b1, b2⟩ := g_in_box S c hg hd y hy hiy
  unfold call
  rw [clampE_id _ _ _ a1 a2, clampE_id _ _ _ b1 b2]
  exact gAff_strictMono c hg _ _ (S.mono x y hx hy hxy)

/-- ... and so is the inverse map (for an increasing `ψ`). -/
theorem inverse_mono (ψ : Rat → Rat) (hψ : ∀ s t, s ≤ t → ψ s ≤ ψ t) (c : Coord) (hg : 0 < c.gamma)
    (u v : Rat) (huv : u ≤ v) : inverse ψ c u ≤ inverse ψ c v := by
  unfold inverse ginvAff
  exact clampE_mono _ _ _ _ (hψ _ _ (Rat.add_le_add_right.mpr (Rat.mul_le_mul_of_nonneg_left huv hg.le)))

/-- RANGES: outputs of either direction never leave the respective box - for ANY input, also
    outside the box, and for ANY inner map. -/
theorem inverse_range (ψ : Rat → Rat) (c : Coord) (y : Rat) (hl : isLo c.origLo = true) (hh : isHi c.origHi = true)
    (hlh : loLeHi c.origLo c.origHi = true) :
    geLo c.origLo (inverse ψ c y) ∧ leHi c.origHi (inverse ψ c y) :=
  clampE_mem _ _ _ hl hh hlh

theorem call_range (φ : Rat → Rat) (c : Coord) (x : Rat) (hl : isLo (lbT φ c) = true) (hh : isHi (ubT φ c) = true)
    (hlh : loLeHi (lbT φ c) (ubT φ c) = true) :
    geLo (lbT φ c) (call φ c x) ∧ leHi (ubT φ c) (call φ c x) :=
  clampE_mem _ _ _ hl hh hlh

/-- DECISION RULE: a coordinate is log-transformed exactly when nonlinear scaling is enabled, all
    four of its bounds are positive and the plausible range spans at least a decade. -/
theorem applyLog_iff (nonlinear : Bool) (lb ub : Ext) (plb pub : Rat) :
    applyLog nonlinear lb ub plb pub = true ↔
      nonlinear = true ∧ extPos lb = true ∧ extPos ub = true ∧ 0 < plb ∧ 0 < pub ∧ 10 ≤ Fl.div pub plb := by
  simp only [applyLog, Bool.and_eq_true, decide_eq_true_eq, and_assoc, gt_iff_lt, ge_iff_le]

theorem affine_otherwise (φ : Rat → Rat) (lb ub : Ext) (plb pub : Rat) :
    (mkCoord φ false lb ub plb pub).isLog = false := rfl

/-! Non-vacuity (affine instance): a box with an infinite upper bound, points in, on and outside it. -/
example :
    let c := mkCoord id false (.fin (-4)) .pinf (-2) 3
    0 < c.gamma ∧ call id c (-2) = -1 ∧ call id c 3 = 1 ∧ call id c (-10) = -9/5 ∧ inverse id c (call id c 1000) = 1000 ∧
    inverse id c (-7) = -4 := by
  decide +kernel

end Bads.Tr
