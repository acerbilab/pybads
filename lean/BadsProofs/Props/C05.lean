/-
  C05 - Noisy targets: the reported estimate is the mean of fresh samples at the returned x.
-/
import BadsProofs.Lemmas.NoisyLemmas
import Generated.Defaults

namespace Bads.Noisy

/-- The returned point of a noisy run is one of the recorded iterates (hence a point evaluated
    earlier, by `finalChoice_pinv`/`run_pinv` of C19), chosen as the first minimiser of the
    quantile values over iterates `1..`. -/
theorem final_point_is_iterate (s : St) (vals : List (Rat × Rat)) (qs : List Rat) (i : Nat)
    (ha : argminFrom1 qs = some i) (hlt : i < s.hist.length) :
    ∃ r, s.hist[i]? = some r ∧ (finalChoice s vals qs).u = r.u ∧ (finalChoice s vals qs).yval = r.yval := by
  rcases finalChoice_cases s vals qs with ⟨_, hnone⟩ | ⟨j, r, hj, hr, hs⟩
  · have hi := hnone i ha
    rw [List.getElem?_eq_none_iff, reEstimate_length] at hi
    omega
  · obtain rfl : j = i := Option.some.inj (hj.symm.trans ha)
    obtain ⟨r', hr', he⟩ := getElem_reEstimate_pair _ _ _ _ hr
    rw [hs]
    exact ⟨r', hr', (congrArg Prod.fst he).symm, (congrArg Prod.snd he).symm⟩

theorem argmaxFrom1_go_spec : ∀ (ks : List Rat) (i : Nat) (acc : Option (Nat × Rat)) (r : Nat × Rat),
    argmaxFrom1.go ks i acc = some r →
    (acc = some r ∨ (i ≤ r.1 ∧ r.1 < i + ks.length ∧ ks[r.1 - i]? = some r.2)) ∧
    (∀ a, acc = some a → a.2 ≤ r.2) ∧ (∀ k ∈ ks, k ≤ r.2) := by
  intro ks i acc r h
  -- with a row `(j, m)` already chosen: it stays, or a later row with a larger key replaces it
  have key : ∀ j m, argmaxFrom1.go ks i (some (j, m)) = some r →
      ((j, m) = r ∨ (i ≤ r.1 ∧ r.1 < i + ks.length ∧ ks[r.1 - i]? = some r.2)) ∧ m ≤ r.2 ∧ ∀ k ∈ ks, k ≤ r.2 := by
    intro j m h
    rcases argmaxFrom1_go_cases ks i j m with ⟨hg, hle⟩ | ⟨n, k, hn, hg, hlt, hmax⟩
    · obtain rfl : (j, m) = r := Option.some.inj (hg.symm.trans h)
      exact ⟨Or.inl rfl, le_refl _, hle⟩
    · obtain rfl : (i + n, k) = r := Option.some.inj (hg.symm.trans h)
      refine ⟨Or.inr ⟨Nat.le_add_right i n, Nat.add_lt_add_left (List.getElem?_eq_some_iff.mp hn).1 i, ?_⟩, le_of_lt hlt, hmax⟩
      rwa [Nat.add_sub_cancel_left]
  rcases acc with _ | ⟨j, m⟩
  · cases ks with
    | nil => cases h
    | cons k ks =>
      -- the first row is chosen unconditionally, as if the fold had started from it
      obtain ⟨rfl | hr, _, hmax⟩ := key i k ((if_neg (lt_irrefl k)).trans h)
      · exact ⟨Or.inr ⟨le_refl i, Nat.lt_add_of_pos_right (Nat.succ_pos _), by rw [Nat.sub_self]; rfl⟩, nofun, hmax⟩
      · exact ⟨Or.inr hr, nofun, hmax⟩
  · obtain ⟨hr, hm, hmax⟩ := key j m h
    exact ⟨hr.imp_left (congrArg some), fun a ha => by cases ha; exact hm, hmax⟩

theorem argmaxFrom1_spec (keys : List Rat) (i : Nat) (m : Rat) (h : argmaxFrom1 keys = some (i, m)) :
    1 ≤ i ∧ keys[i]? = some m ∧ ∀ j k, 1 ≤ j → keys[j]? = some k → k ≤ m := by
  obtain ⟨hacc | ⟨hi, _, hget⟩, _, hmax⟩ := argmaxFrom1_go_spec (keys.drop 1) 1 none (i, m) h
  · cases hacc
  · rw [List.getElem?_drop, Nat.add_sub_cancel' hi] at hget
    refine ⟨hi, hget, fun j k hj hk => hmax k (List.mem_of_getElem? (i := j - 1) ?_)⟩
    rw [List.getElem?_drop, Nat.add_sub_cancel' hj]
    exact hk

/-- The chosen index is ≥ 1, within range, and minimises the quantile value over iterates `1..`. -/
theorem argminFrom1_spec (qs : List Rat) (i : Nat) (h : argminFrom1 qs = some i) :
    1 ≤ i ∧ i < qs.length ∧ ∀ j q, 1 ≤ j → qs[j]? = some q → ∃ qi, qs[i]? = some qi ∧ qi ≤ q := by
  simp only [argminFrom1, Option.map_eq_some_iff] at h
  obtain ⟨⟨i', m⟩, hg, rfl⟩ := h
  obtain ⟨hi, hget, hmax⟩ := argmaxFrom1_spec _ _ _ hg
  simp only [List.getElem?_map, Option.map_eq_some_iff] at hget
  obtain ⟨qi, hqi, rfl⟩ := hget
  refine ⟨hi, (List.getElem?_eq_some_iff.mp hqi).1, fun j q hj hq => ⟨qi, hqi, ?_⟩⟩
  exact neg_le_neg_iff.mp (hmax j (-q) hj (by rw [List.getElem?_map, hq, Option.map_some]))

/-- `fval` is the mean of `yval_vec`: `n · fval = Σ yval_vec`. -/
theorem fval_is_mean (ys : List Rat) (h : ys ≠ []) : meanOf ys * ys.length = sumL ys := by
  have hlen : (ys.length : Rat) ≠ 0 := Nat.cast_ne_zero.mpr (List.length_pos_iff.mpr h).ne'
  exact div_mul_cancel₀ (sumL ys) hlen

/-- `yval_vec` consists of the fresh samples, supplemented by the iterate's earlier observation
    exactly when a single final sample is configured. -/
theorem yvec_single_supplemented (s : St) (y : Rat) : yvalVec s [y] = [y, s.yval] := rfl

theorem yvec_several (s : St) (ys : List Rat) (h : ys.length ≠ 1) : yvalVec s ys = ys :=
  if_neg h

/-- The squared standard error: `n² · fsd² = Σ (y - mean)²` is non-negative and zero for identical samples. -/
theorem sqDev_nonneg (ys : List Rat) : 0 ≤ sqDev ys := by
  unfold sqDev
  generalize meanOf ys = m
  induction ys with
  | nil => exact le_refl _
  | cons y ys ih => exact add_nonneg (mul_self_nonneg (y - m)) ih

/-- A target whose two evaluations at the start point differ by more than `tol_noise` is treated as
    stochastic; one that returns identical values is not (for `tol_noise ≥ 0`). -/
theorem noise_detected_iff (y1 y2 tol : Rat) : noiseDetected y1 y2 tol = true ↔ |y1 - y2| > tol := by
  unfold noiseDetected
  rw [Bool.or_eq_true, decide_eq_true_eq, decide_eq_true_eq, gt_iff_lt, gt_iff_lt, gt_iff_lt, lt_abs, neg_sub]

theorem identical_values_not_noisy (y tol : Rat) (h : 0 ≤ tol) : noiseDetected y y tol = false := by
  unfold noiseDetected
  rw [sub_self, Bool.or_self, decide_eq_false_iff_not]
  exact not_lt.mpr h

/-- Defaults: a non-negative number of final samples, default incumbent policy. -/
theorem defaults_C05 : ∀ d ∈ Generated.defaults, 0 ≤ d.noise_final_samples ∧ d.improvement_quantile = 1/2 ∧ d.stobads = false := by
  decide +kernel

/-! Non-vacuity: three iterates, the second minimises the quantile value; one final sample. -/
example :
    let s : St := { u := [0], uBest := [0], yval := 5, fval := 5, fsd := 1,
                    hist := [{ u := [9], yval := 1, fval := 1, fsd := 1 }, { u := [1], yval := 4, fval := 4, fsd := 1 }, { u := [2], yval := 6, fval := 6, fsd := 1 }] }
    let f := finalChoice s [] [0, 7, 9]
    f.u = [1] ∧ yvalVec f [3] = [3, 4] ∧ meanOf (yvalVec f [3]) = 7/2 ∧ sqDev (yvalVec f [3]) = 1/2 := by
  decide +kernel

end Bads.Noisy
