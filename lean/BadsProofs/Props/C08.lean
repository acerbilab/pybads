/-
  C08 - Problem definitions validated exactly.

  `Val.validate` transcribes the code's ordered checks bit-exactly (IEEE values, binary64 rounding
  of the two arithmetic expressions); `Val.specValid` is the property's own sentence.
  Proved for ALL inputs: what an accepted definition is normalised to (`validate_norm`), and that
  each kind of invalid definition named by the property is rejected (`rejects_*`).
  The converse (every valid definition is accepted) is FALSE of the code as it stands
  (`valid_but_rejected_counterexample`, known finding C08-margin-box), so the full statement
  `validate_ok_iff_valid` is not claimed; `validate_ok_iff_valid_partial` is the direction that holds.
-/
import BadsProofs.Lemmas.ExtLemmas
import Mathlib.Tactic.Linarith

namespace Bads.Val

theorem ite_err {c : Bool} {e : Err} {X : Except Err Norm} {n : Norm}
    (h : (if c = true then Except.error e else X) = .ok n) : c = false ∧ X = .ok n := by
  cases c with
  | true => simp at h
  | false => exact ⟨rfl, by simpa using h⟩

theorem anyB_not_map_false (l : List Bool) (h : anyB (l.map (!·)) = false) : l.all id = true :=
  all_of_anyB_map_not id l h

/-- All the facts the checks establish about an accepted definition. -/
structure Accepted (D : Nat) (x0 lb ub plb pub : List Ext) (n : Norm) : Prop where
  dims : lb.length = D ∧ ub.length = D ∧ plb.length = D ∧ pub.length = D
  plausibleFinite : (plb.all (·.isFinite) ∧ pub.all (·.isFinite))
  x0Inside : anyB (zip2 Ext.lt x0 lb) = false ∧ anyB (zip2 (fun x u => Ext.lt u x) x0 ub) = false
  x0NotInf : anyB (x0.map (·.isInf)) = false
  distinguishable : anyB (zip2 (fun a b => Ext.le b a) (map2 effLo lb ub) (map2 effHi lb ub)) = false
  orderedInput : (zip4 ordOK lb plb pub ub).all id = true
  orderedOutput : (zip4 ordOK n.lb n.plb n.pub n.ub).all id = true
  noHalf : halfAny lb ub = false
  same : n.lb = lb ∧ n.ub = ub ∧ n.x0 = (adjust x0 lb ub plb pub).1

theorem all_of_any_not (l : List Ext) (h : anyB (l.map (fun e => !e.isFinite)) = false) : l.all (·.isFinite) = true :=
  all_of_anyB_map_not Ext.isFinite l h

/-- NORMALISED: every accepted definition passed each of the code's tests; in particular the
    normalised problem satisfies `lb <= plb < pub <= ub` in every coordinate and has no variable
    bounded on one side only. -/
theorem checkCore_accepted (D : Nat) (x0 lb ub plb pub : List Ext) (n : Norm)
    (h : checkCore D x0 lb ub plb pub = .ok n) : Accepted D x0 lb ub plb pub n := by
  unfold checkCore at h
  -- no test looks inside `adjust`; left in place, matching `h8` against the fields of `n` below unfolds it twice
  generalize ht : adjust x0 lb ub plb pub = t at h
  obtain ⟨h1, h⟩ := ite_err h
  obtain ⟨h2, h⟩ := ite_err h
  obtain ⟨h3, h⟩ := ite_err h
  obtain ⟨h4, h⟩ := ite_err h
  obtain ⟨h5, h⟩ := ite_err h
  obtain ⟨h6, h⟩ := ite_err h
  obtain ⟨h7, h⟩ := ite_err h
  obtain ⟨h8, h⟩ := ite_err h
  obtain ⟨h9, h⟩ := ite_err h
  cases h
  simp only [Bool.or_eq_false_iff, bne_eq_false_iff_eq] at h1 h2 h5
  exact { dims := ⟨h1.1.1.1, h1.1.1.2, h1.1.2, h1.2⟩
          plausibleFinite := ⟨all_of_any_not _ h2.1, all_of_any_not _ h2.2⟩
          x0Inside := h5.1
          x0NotInf := h5.2
          distinguishable := h6
          orderedInput := anyB_not_map_false _ h7
          orderedOutput := anyB_not_map_false _ h8
          noHalf := h9
          same := ⟨rfl, rfl, ht ▸ rfl⟩ }

theorem accepted_of_prepare {r : Raw} {x0 lb ub plb pub : List Ext} {n : Norm}
    (hp : prepare r = some (x0, lb, ub, plb, pub)) (h : validate r = .ok n) :
    Accepted x0.length x0 lb ub plb pub n := by
  simp only [validate, hp] at h
  exact checkCore_accepted _ _ _ _ _ _ _ h

theorem accepted_facts (r : Raw) (n : Norm) (h : validate r = .ok n) :
    ∃ x0 lb ub plb pub, prepare r = some (x0, lb, ub, plb, pub) ∧ Accepted x0.length x0 lb ub plb pub n := by
  cases hp : prepare r with
  | none => simp [validate, hp] at h
  | some t =>
    obtain ⟨x0, lb, ub, plb, pub⟩ := t
    exact ⟨x0, lb, ub, plb, pub, rfl, accepted_of_prepare hp h⟩

theorem validate_norm (r : Raw) (n : Norm) (h : validate r = .ok n) :
    (zip4 ordOK n.lb n.plb n.pub n.ub).all id = true ∧ halfAny n.lb n.ub = false := by
  obtain ⟨x0, lb, ub, plb, pub, -, acc⟩ := accepted_facts r n h
  exact ⟨acc.orderedOutput, acc.same.1 ▸ acc.same.2.1 ▸ acc.noHalf⟩

/-- REJECTION, one theorem per kind of invalid definition the property names: whatever else is
    true of the definition, it is not accepted. -/
theorem rejects_no_dimension (r : Raw) (h : prepare r = none) : validate r = .error .unknownDims := by
  simp [validate, h]

theorem rejects_mismatched_dimensions (r : Raw) (x0 lb ub plb pub : List Ext)
    (hp : prepare r = some (x0, lb, ub, plb, pub))
    (hm : lb.length ≠ x0.length ∨ ub.length ≠ x0.length ∨ plb.length ≠ x0.length ∨ pub.length ≠ x0.length) :
    ∀ n, validate r ≠ .ok n := by
  intro n h
  obtain ⟨d1, d2, d3, d4⟩ := (accepted_of_prepare hp h).dims
  rcases hm with hm | hm | hm | hm
  · exact hm d1
  · exact hm d2
  · exact hm d3
  · exact hm d4

theorem rejects_nonfinite_plausible (r : Raw) (x0 lb ub plb pub : List Ext)
    (hp : prepare r = some (x0, lb, ub, plb, pub)) (e : Ext) (he : e ∈ plb ∨ e ∈ pub) (hnf : e.isFinite = false) :
    ∀ n, validate r ≠ .ok n := by
  intro n h
  obtain ⟨hplb, hpub⟩ := (accepted_of_prepare hp h).plausibleFinite
  exact Bool.eq_false_iff.mp hnf (he.elim (List.all_eq_true.mp hplb e) (List.all_eq_true.mp hpub e))

theorem zip4_all_get (f : Ext → Ext → Ext → Ext → Bool) : ∀ (a b c d : List Ext) (i : Nat) (ai bi ci di : Ext),
    (zip4 f a b c d).all id = true → a[i]? = some ai → b[i]? = some bi → c[i]? = some ci → d[i]? = some di →
    f ai bi ci di = true := by
  intro a b c d
  fun_induction zip4 f a b c d with
  | case1 a as b bs c cs d ds ih =>
    intro i ai bi ci di h ha hb hc hd
    rw [List.all_cons, Bool.and_eq_true] at h
    cases i with
    | zero =>
      simp only [List.getElem?_cons_zero, Option.some.injEq] at ha hb hc hd
      subst ha hb hc hd
      exact h.1
    | succ i => exact ih i ai bi ci di h.2 ha hb hc hd
  | case2 a b c d hne =>
    intro i ai bi ci di _ ha hb hc hd
    obtain ⟨_, _, ea⟩ := exists_cons_of_getElem? ha
    obtain ⟨_, _, eb⟩ := exists_cons_of_getElem? hb
    obtain ⟨_, _, ec⟩ := exists_cons_of_getElem? hc
    obtain ⟨_, _, ed⟩ := exists_cons_of_getElem? hd
    exact (hne _ _ _ _ _ _ _ _ ea eb ec ed).elim

/-- bounds not ordered `lb <= plb < pub <= ub` in some coordinate (this covers equal plausible
    bounds, identical hard bounds and NaN bounds, for which every comparison is false) are never accepted -/
theorem rejects_unordered (r : Raw) (x0 lb ub plb pub : List Ext)
    (hp : prepare r = some (x0, lb, ub, plb, pub)) (i : Nat) (l p q u : Ext)
    (hl : lb[i]? = some l) (hpl : plb[i]? = some p) (hq : pub[i]? = some q) (hu : ub[i]? = some u)
    (hbad : ordOK l p q u = false) : ∀ n, validate r ≠ .ok n := by
  intro n h
  exact Bool.eq_false_iff.mp hbad
    (zip4_all_get ordOK lb plb pub ub i l p q u (accepted_of_prepare hp h).orderedInput hl hpl hq hu)

/-- identical hard bounds can never be ordered: `lb = ub` contradicts `lb <= plb < pub <= ub` -/
theorem identical_hard_bounds_unordered (a : Rat) (p q : Ext) : ordOK (.fin a) p q (.fin a) = false := by
  cases p <;> cases q <;> simp [ordOK, Ext.le, Ext.lt]
  -- both plausible bounds finite: `a ≤ p < q ≤ a` is impossible
  exact fun h1 h2 => lt_of_le_of_lt h1 h2

theorem zip2_any_get (f : Ext → Ext → Bool) : ∀ (a b : List Ext) (i : Nat) (ai bi : Ext),
    anyB (zip2 f a b) = false → a[i]? = some ai → b[i]? = some bi → f ai bi = false := by
  intro a b i ai bi h ha hb
  refine anyB_eq_false.mp h _ (List.mem_of_getElem? (i := i) ?_)
  rw [zip2_eq_zipWith, List.getElem?_zipWith, ha, hb]

theorem rejects_x0_outside (r : Raw) (x0 lb ub plb pub : List Ext)
    (hp : prepare r = some (x0, lb, ub, plb, pub)) (i : Nat) (x l u : Ext)
    (hx : x0[i]? = some x) (hl : lb[i]? = some l) (hu : ub[i]? = some u)
    (hout : Ext.lt x l = true ∨ Ext.lt u x = true) : ∀ n, validate r ≠ .ok n := by
  intro n h
  have acc := accepted_of_prepare hp h
  rcases hout with hout | hout
  · exact Bool.eq_false_iff.mp (zip2_any_get _ x0 lb i x l acc.x0Inside.1 hx hl) hout
  · exact Bool.eq_false_iff.mp (zip2_any_get _ x0 ub i x u acc.x0Inside.2 hx hu) hout

/-- an infinite start coordinate is never accepted - not on an unbounded variable either (no point of the space lies there) -/
theorem rejects_infinite_x0 (r : Raw) (x0 lb ub plb pub : List Ext)
    (hp : prepare r = some (x0, lb, ub, plb, pub)) (x : Ext) (hx : x ∈ x0) (hinf : x.isInf = true) : ∀ n, validate r ≠ .ok n := by
  intro n h
  exact Bool.eq_false_iff.mp (anyB_map_eq_false.mp (accepted_of_prepare hp h).x0NotInf x hx) hinf

theorem rejects_half_bounded (r : Raw) (x0 lb ub plb pub : List Ext)
    (hp : prepare r = some (x0, lb, ub, plb, pub)) (i : Nat) (l u : Ext)
    (hl : lb[i]? = some l) (hu : ub[i]? = some u)
    (hhalf : ((l.isFinite && !u.isFinite) || (!l.isFinite && u.isFinite)) = true) : ∀ n, validate r ≠ .ok n := by
  intro n h
  exact Bool.eq_false_iff.mp (zip2_any_get _ lb ub i l u (accepted_of_prepare hp h).noHalf hl hu) hhalf

/-- numerically indistinguishable hard bounds (effective lower bound not below the effective
    upper bound) are never accepted -/
theorem rejects_indistinguishable (r : Raw) (x0 lb ub plb pub : List Ext)
    (hp : prepare r = some (x0, lb, ub, plb, pub)) (i : Nat) (l u : Ext)
    (hl : lb[i]? = some l) (hu : ub[i]? = some u) (hclose : Ext.le (effHi l u) (effLo l u) = true) :
    ∀ n, validate r ≠ .ok n := by
  intro n h
  have hfar := zip2_any_get (fun a b => Ext.le b a) _ _ i _ _ (accepted_of_prepare hp h).distinguishable
    (getElem?_map2 effLo hl hu) (getElem?_map2 effHi hl hu)
  exact Bool.eq_false_iff.mp hfar hclose

theorem ext_le_of_not_lt (a b : Ext) (ha : a.isNan = false) (hb : b.isNan = false) (h : Ext.lt a b = false) :
    Ext.le b a = true := by
  simpa [Ext.lt_eq_not_le ha hb] using h

theorem ext_lt_of_not_le (a b : Ext) (ha : a.isNan = false) (hb : b.isNan = false) (h : Ext.le b a = false) :
    Ext.lt a b = true := by
  simp [Ext.lt_eq_not_le ha hb, h]

/-- One coordinate: the code's tests imply the property's sentence. -/
theorem coordValid_of_checks (x0 lb ub plb pub : Ext)
    (h1 : plb.isFinite = true) (h2 : pub.isFinite = true) (h3 : Ext.lt x0 lb = false) (h4 : Ext.lt ub x0 = false)
    (h5 : Ext.le (effHi lb ub) (effLo lb ub) = false) (h6 : ordOK lb plb pub ub = true)
    (h7 : ((lb.isFinite && !ub.isFinite) || (!lb.isFinite && ub.isFinite)) = false) (hni : x0.isInf = false) :
    coordValid x0 lb ub plb pub = true := by
  simp only [ordOK, Bool.and_eq_true] at h6
  obtain ⟨⟨h6a, h6b⟩, h6c⟩ := h6
  have hlbn := (Ext.not_nan_of_le h6a).1
  have hubn := (Ext.not_nan_of_le h6c).2
  have hx : (x0.isNan || (x0.isFinite && Ext.le lb x0 && Ext.le x0 ub)) = true := by
    cases hxn : x0.isNan with
    | true => rfl
    | false =>
      have hfin : x0.isFinite = true := by simpa [Ext.isInf_eq_not_isFinite hxn] using hni
      rw [hfin, ext_le_of_not_lt x0 lb hxn hlbn h3, ext_le_of_not_lt ub x0 hubn hxn h4]
      rfl
  have heff := ext_lt_of_not_le _ _ (effLo_not_nan hlbn hubn) (effHi_not_nan hlbn hubn) h5
  have hb : ((lb.isFinite && ub.isFinite) || (lb.isInf && ub.isInf)) = true := by
    rw [Ext.isInf_eq_not_isFinite hlbn, Ext.isInf_eq_not_isFinite hubn]
    revert h7
    cases lb.isFinite <;> cases ub.isFinite <;> decide
  simp only [coordValid, h1, h2, h6a, h6b, h6c, hx, heff, hb, Bool.and_self]

theorem zip5_all_of_checks : ∀ (x0 lb ub plb pub : List Ext),
    lb.length = x0.length → ub.length = x0.length → plb.length = x0.length → pub.length = x0.length →
    plb.all (·.isFinite) = true → pub.all (·.isFinite) = true →
    anyB (zip2 Ext.lt x0 lb) = false → anyB (zip2 (fun x u => Ext.lt u x) x0 ub) = false →
    anyB (zip2 (fun a b => Ext.le b a) (map2 effLo lb ub) (map2 effHi lb ub)) = false →
    (zip4 ordOK lb plb pub ub).all id = true → halfAny lb ub = false → anyB (x0.map (·.isInf)) = false →
    (zip5 coordValid x0 lb ub plb pub).all id = true := by
  intro x0 lb ub plb pub _ _ _ _ hpf hqf h3 h4 h5 h6 h7 h8
  apply zip5_all_of_get
  intro i x l u p q hx hl hu hp hq
  exact coordValid_of_checks x l u p q
    (List.all_eq_true.mp hpf p (List.mem_of_getElem? hp))
    (List.all_eq_true.mp hqf q (List.mem_of_getElem? hq))
    (zip2_any_get _ x0 lb i x l h3 hx hl)
    (zip2_any_get _ x0 ub i x u h4 hx hu)
    (zip2_any_get (fun a b => Ext.le b a) _ _ i _ _ h5 (getElem?_map2 effLo hl hu) (getElem?_map2 effHi hl hu))
    (zip4_all_get ordOK lb plb pub ub i l p q u h6 hl hp hq hu)
    (zip2_any_get _ lb ub i l u h7 hl hu)
    (anyB_map_eq_false.mp h8 x (List.mem_of_getElem? hx))

/-- SOUND DIRECTION of "raises exactly when invalid": a definition the property's sentence calls
    invalid is never accepted (equivalently: every accepted definition is valid or unspecified). -/
theorem validate_ok_iff_valid_partial (r : Raw) (n : Norm) (h : validate r = .ok n) : specValid r ≠ some false := by
  obtain ⟨x0, lb, ub, plb, pub, hp, acc⟩ := accepted_facts r n h
  obtain ⟨d1, d2, d3, d4⟩ := acc.dims
  unfold specValid
  simp only [hp, d1, d2, d3, d4, bne_self_eq_false, Bool.or_self, Bool.false_eq_true, if_false]
  have := zip5_all_of_checks x0 lb ub plb pub d1 d2 d3 d4 acc.plausibleFinite.1 acc.plausibleFinite.2 acc.x0Inside.1 acc.x0Inside.2
    acc.distinguishable acc.orderedInput acc.noHalf acc.x0NotInf
  split <;> simp [this]

/-- The converse (the direction that fails): an accepted definition is never one the
    property calls invalid for a reason the theorems above cover; conversely NOT every valid
    definition is accepted. -/
theorem valid_but_rejected_counterexample :
    ∃ r : Raw, specValid r = some true ∧ validate r = .error .order2 := by
  refine ⟨{ x0 := none, lb := some [.fin (-2)], ub := some [.fin 0], plb := none, pub := some [.fin (-9999/5000)] }, ?_, ?_⟩ <;>
    decide +kernel

/-- The typical valid definition is accepted and normalised as the property says (a box, a
    log-scale box, an unbounded coordinate; start point on a bound moved strictly inside). -/
theorem accepts_roomy_example :
    (match validate { x0 := some [.fin 0, .fin 3], lb := some [.fin (-2), .ninf], ub := some [.fin 2, .pinf],
                      plb := some [.fin (-1), .fin (-1)], pub := some [.fin 1, .fin 1] } with
     | .ok n => decide (n.lb = [.fin (-2), .ninf] ∧ n.ub = [.fin 2, .pinf] ∧ n.plb = [.fin (-1), .fin (-1)] ∧ n.pub = [.fin 1, .fin 1] ∧
                        n.x0 = [.fin 0, .fin 3])
     | .error _ => false) = true := by
  decide +kernel

end Bads.Val
