/-
  C14 over ONE WHOLE CALL of `optimize()` (model `Opt`): in every iteration of the loop of a whole call - the loop entered in the state the initial
  phase derives, any noise mode - the polled points are incumbent (after this iteration's search) + mesh size × a vector of ONE basis of the
  `poll_mads_2n` form, pairwise distinct, at most 2·D of them.
-/
import BadsProofs.Props.C14Run
import BadsProofs.Props.C13Opt

namespace Bads.Opt

/-- every iteration of the loop of a whole call (states of `Reach`), given that the candidate set handed to the filter is the generated poll set -/
theorem optimize_poll_form (D : Nat) (mult : Rat) (e : Env) (io : InitOrc) (s : Full.St) (q : Full.Orc)
    (_h : Reach (loopEnv e (init e io)) (loopStart e (init e io)) s)
    (hp : Full.PollSetOK D mult (loopEnv e (init e io)) s q) (hn : q.pollOrder.Nodup) :
    Full.StepForm D mult (loopEnv e (init e io)) s q :=
  ⟨Full.poll_step_form D mult _ s q hp, Full.poll_step_nodup _ s q hn, Full.poll_step_at_most_2D D mult _ s q hp hn⟩

/-- ... and along the whole oracle stream of the call -/
theorem optimize_polls_form (D : Nat) (mult : Rat) (e : Env) (io : InitOrc) (qs : List Full.Orc)
    (h : Full.PollsOK D mult (loopEnv e (init e io)) qs (loopStart e (init e io))) :
    Full.AllPolls (Full.StepForm D mult (loopEnv e (init e io))) (loopEnv e (init e io)) qs (loopStart e (init e io)) :=
  Full.run_polls_form D mult _ qs _ h

end Bads.Opt
