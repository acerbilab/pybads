/-
  C02 - Non-box constraints: no infeasible point is evaluated or returned.

  `cons u = true` means: the user's constraint function reports a violation at `inverse u`.
  The constraint oracle is an arbitrary DETERMINISTIC function; candidate sets and picks are
  arbitrary.
-/
import BadsProofs.Props.C01

namespace Bads.Pipe

/-- Every row a filter hands on satisfies the constraint. -/
theorem filtered_feasible (e : Env) (c : Pt → Bool) (hc : e.cons = some c) (proj : Bool) (h : Rat) (U logX : List Pt) :
    ∀ p ∈ filterCode (filterIn e proj h U logX), c p = false :=
  filter_feasible (filterIn e proj h U logX) c hc

theorem step_feasible (e : Env) (c : Pt → Bool) (hc : e.cons = some c) (evals : List Pt) (s : Step)
    (h : ∀ u ∈ evals, c u = false) : ∀ u ∈ step e evals s, c u = false :=
  step_forall e _ evals s (fun proj hm U logX _ _ => filtered_feasible e c hc proj hm U logX) h

/-- For every sequence of candidate sets and picks: every evaluated point (initial design, every
    search and poll step, the final re-sampling) is feasible, provided the start point is. -/
theorem pipeline_calls_feasible (e : Env) (c : Pt → Bool) (hc : e.cons = some c) :
    ∀ (steps : List Step) (evals : List Pt), (∀ u ∈ evals, c u = false) → ∀ u ∈ run e evals steps, c u = false :=
  fun steps evals => run_forall e _ steps evals fun _ _ proj h U logX _ _ => filtered_feasible e c hc proj h U logX

/-- Construction yields a start point only if it is inside the box AND feasible after snapping ... -/
theorem construct_ok (e : Env) (h : Rat) (u0 g : Pt) (hg : construct e h u0 = some g) :
    InBox e.lb e.ub g ∧ ∀ c, e.cons = some c → c g = false := by
  unfold construct at hg
  cases hgs : gridStart h e.lb e.ub u0 with
  | none => simp [hgs] at hg
  | some g' =>
    simp only [hgs] at hg
    have hbox := gridStart_ok_or_error h e.lb e.ub u0 g' hgs
    cases hcons : e.cons with
    | none =>
      simp only [hcons, Option.some.injEq] at hg
      exact hg ▸ ⟨hbox, fun c hc => by cases hc⟩
    | some c =>
      simp only [hcons] at hg
      split at hg
      · cases hg
      · simp only [Option.some.injEq] at hg
        subst hg
        exact ⟨hbox, fun c' hc' => by cases hc'; simpa using ‹¬ c g' = true›⟩

/-- ... and an infeasible (snapped) start point is rejected: no start point, hence no target call. -/
theorem construct_rejects_infeasible_start (e : Env) (h : Rat) (u0 g : Pt) (c : Pt → Bool)
    (hc : e.cons = some c) (hg : gridStart h e.lb e.ub u0 = some g) (hv : c g = true) :
    construct e h u0 = none := by
  simp [construct, hg, hc, hv]

/-- Whole run: construction followed by any steps evaluates only feasible points. -/
theorem run_from_construct_feasible (e : Env) (c : Pt → Bool) (hc : e.cons = some c) (h : Rat) (u0 g : Pt)
    (hg : construct e h u0 = some g) (steps : List Step) : ∀ u ∈ run e [g] steps, c u = false :=
  pipeline_calls_feasible e c hc steps [g] (List.forall_mem_singleton.mpr ((construct_ok e h u0 g hg).2 c hc))

/-! Non-vacuity: a ball constraint with a candidate set straddling it. -/
example :
    let e : Env := { lb := [.fin (-2), .fin (-2)], ub := [.fin 2, .fin 2], origLo := [.fin (-2), .fin (-2)], origHi := [.fin 2, .fin 2],
                     tolMesh := 1/1024, cons := some (fun p => decide ((p.map (fun x => x * x)).sum > 1)), ginv := id }
    construct e (1/4) [1/10, 1/10] = some [0, 0] ∧
    run e [[0, 0]] [.filt false 1 [[1/2, 1/2], [1, 1], [3, 0], [0, 3/4]] [] [0, 1, 2]] = [[0, 0], [0, 3/4], [1/2, 1/2]] := by
  constructor <;> decide +kernel

end Bads.Pipe
