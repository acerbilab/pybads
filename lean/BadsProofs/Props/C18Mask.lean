/-
  C18 - validity of the rank-selection mask for ALL (mu, lambda).

  `_get_selection_idx_mask_(mu, lamb)` (es_search.py l.44-69) is used as `us[selection_mask[0:ll]]`
  with `ll = min(lamb, us.shape[0]) = mu` rows in `us`.  The indexing is valid iff the mask has at
  least `mu` entries and each of its first `mu` entries is `< mu`.

  ORACLE: the initial integer weights `w0 = ceil(lamb * (1/sqrt(i)) / sum_j (1/sqrt(j)))`, `i = 1..mu+lamb`
  (floating point).  Assumed of them (and checked by the harness on every (mu, lambda) it enumerates):
  they are non-increasing and sum to at least `lamb`.  Everything the code does afterwards (the
  reduction loop, the trimming of the last `delta` positive weights, cumsum/scatter/cumsum) is the model.
-/
import BadsProofs.Props.C18
import Mathlib.Algebra.BigOperators.Group.List.Basic

namespace Bads.Srch

/-- non-increasing -/
def Anti (w : List Nat) : Prop := w.Pairwise (fun a b => b ≤ a)

/-- number of positive weights (`np.sum(w > 0)`) -/
def nz (w : List Nat) : Nat := (w.filter (· > 0)).length

theorem sumN_eq_sum : ∀ l : List Nat, sumN l = l.sum
  | [] => rfl
  | x :: xs => by rw [sumN, List.sum_cons, sumN_eq_sum xs]

theorem sumN_append (a b : List Nat) : sumN (a ++ b) = sumN a + sumN b := by
  simp only [sumN_eq_sum, List.sum_append]

theorem nz_cons (x : Nat) (xs : List Nat) : nz (x :: xs) = nz xs + if 0 < x then 1 else 0 := by
  simp only [nz, ← List.countP_eq_length_filter, List.countP_cons, decide_eq_true_eq]

theorem nz_eq_zero {w : List Nat} (h : ∀ x ∈ w, x = 0) : nz w = 0 :=
  List.length_eq_zero_iff.mpr (List.filter_eq_nil_iff.mpr fun x hx => by simp [h x hx])

theorem sumN_reduceOnce (w : List Nat) : sumN (reduceOnce w) + nz w = sumN w := by
  induction w with
  | nil => rfl
  | cons x xs ih =>
    rw [reduceOnce, List.map_cons, sumN, sumN, nz_cons, ← ih, reduceOnce]
    -- a zero weight adds nothing on either side; a positive one gives its unit to the count
    split <;> omega

theorem nz_pos_of_sum_pos (w : List Nat) (h : 0 < sumN w) : 0 < nz w := by
  obtain ⟨x, hx, hpos⟩ := List.sum_pos_iff_exists_pos_nat.mp (sumN_eq_sum w ▸ h)
  exact List.length_pos_iff_exists_mem.mpr ⟨x, List.mem_filter.mpr ⟨hx, decide_eq_true hpos⟩⟩

theorem nz_le_sumN (w : List Nat) : nz w ≤ sumN w :=
  sumN_reduceOnce w ▸ Nat.le_add_left _ _

theorem anti_reduceOnce (w : List Nat) (h : Anti w) : Anti (reduceOnce w) :=
  List.pairwise_map.mpr (h.imp fun hab => Nat.sub_le_sub_right hab 1)

theorem length_reduceOnce (w : List Nat) : (reduceOnce w).length = w.length := List.length_map _

theorem reduceLoop_succ (fuel : Nat) (w : List Nat) (lam : Nat) :
    reduceLoop (fuel + 1) w lam = if sumN w > lam + nz w then reduceLoop fuel (reduceOnce w) lam else w := rfl

/-- THE REDUCTION LOOP keeps the weights non-increasing, keeps their number, never takes their sum
    below `lam`, and ends with at most one excess unit per positive weight. -/
theorem reduceLoop_post (lam : Nat) : ∀ (fuel : Nat) (w : List Nat), sumN w < fuel → lam ≤ sumN w → Anti w →
    Anti (reduceLoop fuel w lam) ∧ lam ≤ sumN (reduceLoop fuel w lam) ∧
    sumN (reduceLoop fuel w lam) ≤ lam + nz (reduceLoop fuel w lam) ∧ (reduceLoop fuel w lam).length = w.length := by
  intro fuel
  induction fuel with
  | zero => exact fun w hf => absurd hf (Nat.not_lt_zero _)
  | succ fuel ih =>
    intro w hf hl ha
    rw [reduceLoop_succ]
    split
    next hc =>
      have hs := sumN_reduceOnce w
      have hp := nz_pos_of_sum_pos w (Nat.zero_lt_of_lt hc)
      exact length_reduceOnce w ▸ ih (reduceOnce w) (by omega) (by omega) (anti_reduceOnce w ha)
    next hc => exact ⟨ha, hl, Nat.le_of_not_gt hc, rfl⟩

theorem getD_of_lt {w : List Nat} {i : Nat} (h : i < w.length) : w.getD i 0 = w[i] :=
  (List.getElem_eq_getD 0).symm

/-- for non-increasing weights the positive ones are exactly the first `nz w` -/
theorem anti_pos_iff : ∀ (w : List Nat), Anti w → ∀ i, (0 < w.getD i 0 ↔ i < nz w) := by
  intro w
  induction w with
  | nil => exact fun _ i => iff_of_false (Nat.lt_irrefl 0) (Nat.not_lt_zero i)
  | cons a rest ih =>
    intro h i
    have ⟨ha, hr⟩ := List.pairwise_cons.mp h
    rw [nz_cons]
    split
    next hp =>
      -- a positive head is counted: the indices shift by one
      cases i with
      | zero => exact iff_of_true hp (Nat.succ_pos _)
      | succ i => exact (ih hr i).trans Nat.succ_lt_succ_iff.symm
    next hn =>
      -- a zero head forces zeros throughout
      have h0 := nz_eq_zero fun b hb => Nat.le_zero.mp (Nat.eq_zero_of_not_pos hn ▸ ha b hb)
      cases i with
      | zero => exact iff_of_false hn (by omega)
      | succ i => exact (ih hr i).trans (by omega)

theorem nz_le_length (w : List Nat) : nz w ≤ w.length := List.length_filter_le _ _

theorem filter_lt_range : ∀ (n k : Nat), k ≤ n → (List.range n).filter (fun i => decide (i < k)) = List.range k := by
  intro n k h
  obtain ⟨m, rfl⟩ := Nat.exists_eq_add_of_le h
  rw [List.range_add, List.filter_append, List.filter_eq_self.mpr, List.filter_eq_nil_iff.mpr, List.append_nil]
  · exact List.forall_mem_map.mpr fun j _ h => Nat.not_lt.mpr (Nat.le_add_right k j) (of_decide_eq_true h)
  · exact fun a ha => decide_eq_true (List.mem_range.mp ha)

theorem lastNonzero_anti (w : List Nat) (h : Anti w) (hp : 0 < nz w) : lastNonzero w = some (nz w - 1) := by
  rw [lastNonzero, List.filter_congr fun i _ => decide_eq_decide.mpr (anti_pos_iff w h i),
    filter_lt_range _ _ (nz_le_length w), List.getLast?_range, if_neg hp.ne']

theorem range_map_getD (w : List Nat) : (List.range w.length).map (fun i => w.getD i 0) = w := by
  apply List.ext_getElem
  · rw [List.length_map, List.length_range]
  · intro i h1 h2
    rw [List.getElem_map, List.getElem_range, getD_of_lt h2]

theorem sumN_map_add (l : List Nat) (f g : Nat → Nat) :
    sumN (l.map (fun i => f i + g i)) = sumN (l.map f) + sumN (l.map g) := by
  simp only [sumN_eq_sum, List.sum_map_add]

/-- number of indices `< n` below `k` -/
theorem sumN_below (k : Nat) : ∀ n, sumN ((List.range n).map (fun i => if i < k then 1 else 0)) = min n k
  | 0 => (Nat.zero_min k).symm
  | n + 1 => by
    rw [List.range_succ, List.map_append, sumN_append, sumN_below k n, List.map_singleton, sumN, sumN]
    -- the new index counts exactly when it is below `k`, and then `n + 1` is still the smaller
    split <;> omega

/-- number of indices `< n` inside the window `[a, b]` -/
theorem sumN_window (a b : Nat) : ∀ n, sumN ((List.range n).map (fun i => if a ≤ i ∧ i ≤ b then 1 else 0))
    = min n (b + 1) - min n a := by
  intro n
  -- the indices in the window and those below `a` are together those below `max a (b + 1)`;
  -- with `min n a` added on both sides the right one is `y - x + x = max y x`
  apply Nat.add_right_cancel (m := min n a)
  rw [Nat.sub_add_eq_max, Nat.max_comm, ← Nat.min_max_distrib_left, ← sumN_below, ← sumN_below, ← sumN_map_add]
  refine congrArg sumN (List.map_congr_left fun i _ => ?_)
  -- in terms of `i < a` and `i ≤ b`: `¬p ∧ q` or `p` is `p ∨ q`, and the two exclude each other
  simp only [lt_max_iff, Nat.lt_succ_iff, ← Nat.not_lt]
  by_cases i < a <;> simp [*]

/-- the trimmed weights, pointwise -/
def trimmed (w : List Nat) (strt last : Nat) : List Nat :=
  (List.range w.length).map (fun i => if strt ≤ i ∧ i ≤ last then w.getD i 0 - 1 else w.getD i 0)

theorem sumN_trimmed (w : List Nat) (h : Anti w) (strt last : Nat) (hl : last < nz w) (hs : strt ≤ last + 1) :
    sumN (trimmed w strt last) + (last + 1 - strt) = sumN w := by
  have hlast : last + 1 ≤ w.length := Nat.le_trans hl (nz_le_length w)
  -- the number of trimmed indices is the size of the window; then entry by entry, a trimmed entry being positive
  have hw := sumN_window strt last w.length
  rw [Nat.min_eq_right hlast, Nat.min_eq_right (Nat.le_trans hs hlast)] at hw
  rw [← hw, trimmed, ← sumN_map_add]
  refine (congrArg sumN (List.map_congr_left fun i _ => ?_)).trans (congrArg sumN (range_map_getD w))
  split
  next hc => exact Nat.sub_add_cancel ((anti_pos_iff w h i).mpr (Nat.lt_of_le_of_lt hc.2 hl))
  next => rfl

theorem anti_trimmed (w : List Nat) (h : Anti w) (strt last : Nat) (hl : last + 1 = nz w) :
    Anti (trimmed w strt last) := by
  refine List.pairwise_map.mpr (List.pairwise_lt_range.imp_of_mem fun {i j} hi hj hij => ?_)
  rw [List.mem_range] at hi hj
  have hmono := List.pairwise_iff_getElem.mp h i j hi hj hij
  rw [← getD_of_lt hi, ← getD_of_lt hj] at hmono
  split
  next =>
    split
    · exact Nat.sub_le_sub_right hmono 1
    · exact Nat.le_trans (Nat.sub_le _ _) hmono
  next hj' =>
    split
    next hi' =>
      -- only `i` is trimmed: `j` is beyond `last`, where the entries are zero
      have hz := (anti_pos_iff w h j).not.mpr fun hlt => hj' ⟨Nat.le_trans hi'.1 hij.le, Nat.le_of_lt_add_one (hl ▸ hlt)⟩
      exact (Nat.eq_zero_of_not_pos hz).trans_le (Nat.zero_le _)
    · exact hmono

/-- on non-increasing weights with a positive entry, `finalWeights` takes one unit off each of the last
    `sumN w - lam` positive weights of the reduced `w` -/
theorem finalWeights_eq {w0 w : List Nat} {lam : Nat} (hw : reduceLoop (sumN w0 + 1) w0 lam = w) (hA : Anti w)
    (hp : 0 < nz w) : finalWeights w0 lam = trimmed w (nz w - (sumN w - lam)) (nz w - 1) := by
  subst hw
  simp only [finalWeights, lastNonzero_anti _ hA hp, Nat.sub_add_cancel hp]
  rfl

theorem finalWeights_post (w0 : List Nat) (lam : Nat) (hlam : 1 ≤ lam) (ha : Anti w0) (hs : lam ≤ sumN w0) :
    Anti (finalWeights w0 lam) ∧ sumN (finalWeights w0 lam) = lam ∧ (finalWeights w0 lam).length = w0.length := by
  obtain ⟨hA, hL, hU, hlen⟩ := reduceLoop_post lam (sumN w0 + 1) w0 (Nat.lt_succ_self _) hs ha
  have hp := nz_pos_of_sum_pos _ (Nat.lt_of_lt_of_le hlam hL)
  generalize hw : reduceLoop (sumN w0 + 1) w0 lam = w at hA hL hU hlen hp
  rw [finalWeights_eq hw hA hp]
  have hd : sumN w - lam ≤ nz w := Nat.sub_le_iff_le_add'.mpr hU
  have hsum := sumN_trimmed w hA (nz w - (sumN w - lam)) (nz w - 1) (Nat.sub_lt hp Nat.one_pos)
    (by rw [Nat.sub_add_cancel hp]; exact Nat.sub_le _ _)
  rw [Nat.sub_add_cancel hp, Nat.sub_sub_self hd] at hsum
  exact ⟨anti_trimmed w hA _ _ (Nat.sub_add_cancel hp), Nat.add_right_cancel (hsum.trans (Nat.add_sub_cancel' hL).symm),
    by rw [trimmed, List.length_map, List.length_range, hlen]⟩

theorem foldl_max_starts : ∀ (w : List Nat) (m acc : Nat), w ≠ [] →
    (starts w acc).foldl max m = max m (acc + 1 + sumN w.dropLast) := by
  intro w
  induction w with
  | nil => exact fun _ _ h => absurd rfl h
  | cons a t ih =>
    intro m acc _
    cases t with
    | nil => rfl
    | cons b r =>
      -- the later starts are all above `acc + 1`
      rw [starts, List.foldl_cons, ih _ _ (List.cons_ne_nil _ _), List.dropLast_cons_cons, sumN, Nat.max_assoc]
      congr 1
      omega

theorem length_cumsum : ∀ (xs : List Nat) (acc : Nat), (cumsum xs acc).length = xs.length
  | [], _ => rfl
  | x :: xs, acc => by simp [cumsum, length_cumsum xs]

theorem length_maskOf (w : List Nat) (h : w ≠ []) : (maskOf w).length = 1 + sumN w.dropLast := by
  unfold maskOf marks
  simp only [length_cumsum, List.length_dropLast, List.length_map, List.length_range]
  rw [foldl_max_starts w 0 0 h, Nat.zero_max, Nat.add_sub_cancel, Nat.zero_add]

theorem sumN_dropLast (w : List Nat) (h : w ≠ []) : sumN w.dropLast + w.getLast h = sumN w := by
  have h2 := congrArg sumN (List.dropLast_append_getLast h)
  rwa [sumN_append, sumN, sumN, Nat.add_zero] at h2

theorem anti_last_zero (w : List Nat) (ha : Anti w) (h : w ≠ []) (hlt : sumN w < w.length) : w.getLast h = 0 := by
  have hl : w.length - 1 < w.length := Nat.sub_lt (List.length_pos_iff.mpr h) Nat.one_pos
  rw [List.getLast_eq_getElem, ← getD_of_lt hl]
  exact Nat.eq_zero_of_not_pos ((anti_pos_iff w ha _).not.mpr
    (Nat.le_sub_one_of_lt (Nat.lt_of_le_of_lt (nz_le_sumN w) hlt)).not_gt)

/-- THE MASK IS A VALID INDEX VECTOR, for every `mu, lambda ≥ 1`: it has `lambda + 1` entries (at least
    the `ll = min(lambda, mu)` that are used), and entry `k` is at most `k`; hence
    `us[selection_mask[0:ll]]` addresses existing rows of the `mu` retained parents only. -/
theorem mask_valid (w0 : List Nat) (mu lam : Nat) (hmu : 1 ≤ mu) (hlam : 1 ≤ lam)
    (hlen : w0.length = mu + lam) (ha : Anti w0) (hs : lam ≤ sumN w0) :
    (selectionMask w0 lam).length = lam + 1 ∧
    ∀ k, k < min lam mu → ∃ v, (selectionMask w0 lam)[k]? = some v ∧ v < mu := by
  obtain ⟨hA, hS, hL⟩ := finalWeights_post w0 lam hlam ha hs
  unfold selectionMask
  generalize finalWeights w0 lam = w at hA hS hL
  -- `mu + lam` weights summing to `lam < mu + lam`: the last one is 0, so `lam` offspring are placed
  have hlt : sumN w < w.length := by omega
  have hne : w ≠ [] := List.ne_nil_of_length_pos (Nat.zero_lt_of_lt hlt)
  have hlenM : (maskOf w).length = lam + 1 := by
    rw [length_maskOf w hne, ← hS, ← sumN_dropLast w hne, anti_last_zero w hA hne hlt]
    exact Nat.add_comm _ _
  refine ⟨hlenM, fun k hk => ?_⟩
  have ⟨hkl, hkm⟩ := Nat.lt_min.mp hk
  have hk' : k < (maskOf w).length := hlenM ▸ Nat.lt_succ_of_lt hkl
  exact ⟨_, List.getElem?_eq_getElem hk',
    Nat.lt_of_le_of_lt (mask_le_index w k _ (List.getElem?_eq_getElem hk')) hkm⟩

/-- the final weights sum to exactly `lambda`: the `lambda` offspring are shared out among the parents -/
theorem final_weights_sum (w0 : List Nat) (lam : Nat) (hlam : 1 ≤ lam) (ha : Anti w0) (hs : lam ≤ sumN w0) :
    sumN (finalWeights w0 lam) = lam := (finalWeights_post w0 lam hlam ha hs).2.1

/-- the hypotheses are satisfiable: the weights the code computes for (mu, lambda) = (3, 5) -/
example : Anti [2, 1, 1, 1, 1, 1, 1, 1] ∧ 5 ≤ sumN [2, 1, 1, 1, 1, 1, 1, 1] ∧
    selectionMask [2, 1, 1, 1, 1, 1, 1, 1] 5 = [0, 1, 1, 2, 3, 4] :=
  ⟨by unfold Anti; decide, by decide, by decide⟩

end Bads.Srch
