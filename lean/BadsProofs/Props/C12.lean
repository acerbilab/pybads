/-
  C12 - The evaluation log records exactly what was observed, where it was observed.

  Theorems about `Log.record` / `Log.call` / `Log.add`, the state-machine model of
  FunctionLogger, for ALL operation sequences (the invariants are one-step; `runOps_*`
  lifts them to every reachable state by induction over the operation list).
-/
import BadsProofs.Lemmas.LogLemmas

namespace Bads.Log

/-- What a successful `_record` can do: exactly one of three things. -/
inductive RecCase (s : St) (xo x : Pt) (y : Rat) (sd : Option Rat) (rd : Bool) (s' : St) (v : Rat) (idx : Option Nat) : Prop
  | norecHit (i : Nat) (hrd : rd = false) (h1 : lastMatch x s.rows = some i) (h2 : s' = { s with rows := bumpN s.rows i })
      (h3 : v = y) (h4 : idx = some i)
  | norecMiss (hrd : rd = false) (h1 : lastMatch x s.rows = none) (h2 : s' = s) (h3 : v = y) (h4 : idx = none)
  | merge (i : Nat) (sdv : Rat) (hrd : rd = true) (h0 : sd = some sdv ∧ s.he = true) (h1 : firstMatch x s.rows = some i)
      (h2 : s' = { s with rows := modAt (fun r => mergeRow r y sdv) s.rows i }) (h4 : idx = some i)
  | fresh (cap' : Nat) (hrd : rd = true) (h1 : (sd = none ∨ s.he = false) ∨ firstMatch x s.rows = none)
      (h2 : s' = { s with rows := s.rows ++ [{ xo := xo, x := x, y := y, yo := y, tau := sd.map (fun v => 1 / (v * v)), n := 1 }],
                          cap := cap', xMaxIdx := min (s.xMaxIdx + 1) cap' })
      (h3 : v = y) (h4 : idx = some s.rows.length) (h5 : s.cap ≤ cap')
      (h6 : cap' = if s.rows.length > s.cap - 1 || s.cap = 0 then s.cap + growBy s.rows.length else s.cap)

theorem cap_le_grown (n cap : Nat) : cap ≤ if n > cap - 1 || cap = 0 then cap + growBy n else cap := by
  split
  exacts [Nat.le_add_right .., Nat.le_refl _]

/-- `_record` completely: a success is one of the cases of `RecCase`; the only failure is the ambiguous merge - specified noise, an SD,
    and more than one record at the point. -/
theorem record_total (s : St) (xo x : Pt) (y : Rat) (sd : Option Rat) (rd : Bool) :
    match record s xo x y sd rd with
    | .ok (s', v, idx) => RecCase s xo x y sd rd s' v idx
    | .error _ => sd ≠ none ∧ s.he = true ∧ 1 < countMatch x s.rows := by
  unfold record
  cases rd with
  | false =>
    rw [if_pos Bool.not_false]
    cases h1 : lastMatch x s.rows with
    | some i => exact .norecHit i rfl h1 rfl rfl rfl
    | none => exact .norecMiss rfl h1 rfl rfl rfl
  | true =>
    rw [if_neg (nofun : ¬ (!true) = true)]
    cases sd with
    | none => exact .fresh _ rfl (Or.inl (Or.inl rfl)) rfl rfl rfl (cap_le_grown _ _) rfl
    | some sdv =>
      by_cases hhe : s.he = true
      · simp only [if_pos hhe]
        cases hf : firstMatch x s.rows with
        | none => exact .fresh _ rfl (Or.inr hf) rfl rfl rfl (cap_le_grown _ _) rfl
        | some i =>
          simp only [Option.map_some]
          by_cases hc : countMatch x s.rows > 1
          · rw [if_pos hc]
            exact ⟨nofun, hhe, hc⟩
          · rw [if_neg hc]
            exact .merge i sdv rfl ⟨rfl, hhe⟩ hf rfl rfl
      · simp only [if_neg hhe]
        exact .fresh _ rfl (Or.inl (Or.inr (Bool.eq_false_iff.mpr hhe))) rfl rfl rfl (cap_le_grown _ _) rfl

theorem record_cases (s : St) (xo x : Pt) (y : Rat) (sd : Option Rat) (rd : Bool) (s' : St) (v : Rat)
    (idx : Option Nat) (h : record s xo x y sd rd = .ok (s', v, idx)) :
    RecCase s xo x y sd rd s' v idx := by
  simpa only [h] using record_total s xo x y sd rd

theorem record_ok (s : St) (xo x : Pt) (y : Rat) (sd : Option Rat) (rd : Bool)
    (h : sd ≠ none → s.he = true → countMatch x s.rows ≤ 1) : ∃ s' v idx, record s xo x y sd rd = .ok (s', v, idx) := by
  have ht := record_total s xo x y sd rd
  split at ht
  · exact ⟨_, _, _, ‹_›⟩
  · exact absurd (h ht.1 ht.2.1) (Nat.not_le.mpr ht.2.2)

section
variable {s : St} {xo x : Pt} {y : Rat} {sd : Option Rat} {rd : Bool} {s' : St} {v : Rat} {idx : Option Nat}

/-- `_record` writes the arrays and their bookkeeping only; the counters and the noise mode are those of `s`. -/
theorem record_writes (h : record s xo x y sd rd = .ok (s', v, idx)) :
    ∃ rows cap xMaxIdx, s' = { s with rows := rows, cap := cap, xMaxIdx := xMaxIdx } := by
  rcases record_cases s xo x y sd rd s' v idx h with ⟨_, _, _, h2, _, _⟩ | ⟨_, _, h2, _, _⟩ | ⟨_, _, _, _, _, h2, _⟩ | ⟨_, _, _, h2, _, _, _⟩
  all_goals exact ⟨_, _, _, h2⟩

theorem record_he (h : record s xo x y sd rd = .ok (s', v, idx)) : s'.he = s.he := by
  obtain ⟨_, _, _, rfl⟩ := record_writes h
  rfl

/-- A recorded observation that cannot be merged - no SD, no specified noise, or a point not yet logged - appends exactly its own record. -/
theorem record_appends (h : record s xo x y sd true = .ok (s', v, idx)) (hf : sd = none ∨ s.he = false ∨ firstMatch x s.rows = none) :
    s'.rows = s.rows ++ [{ xo := xo, x := x, y := y, yo := y, tau := sd.map (fun v => 1 / (v * v)), n := 1 }] ∧ v = y ∧
    idx = some s.rows.length := by
  rcases record_cases s xo x y sd true s' v idx h with ⟨_, ⟨⟩, _⟩ | ⟨⟨⟩, _⟩ | ⟨i, sdv, _, h0, h1, _⟩ | ⟨c, _, _, rfl, h3, h4, _⟩
  · simp [h0.1, h0.2, h1] at hf
  · exact ⟨rfl, h3, h4⟩

end

/-- Coordinates of a record (original, internal). -/
def coords (r : Row) : Pt × Pt := (r.xo, r.x)

/-- ROWS IN CALL ORDER, COORDINATES NEVER ALTERED: a successful `_record` leaves the coordinate
    columns of all existing records untouched and appends at most one record, at the end, holding
    exactly the point it was called with. -/
theorem record_coords (s : St) (xo x : Pt) (y : Rat) (sd : Option Rat) (rd : Bool) (s' : St) (v : Rat)
    (idx : Option Nat) (h : record s xo x y sd rd = .ok (s', v, idx)) :
    s'.rows.map coords = s.rows.map coords ∨ s'.rows.map coords = s.rows.map coords ++ [(xo, x)] := by
  rcases record_cases s xo x y sd rd s' v idx h with ⟨i, _, _, rfl, _⟩ | ⟨_, _, rfl, _⟩ | ⟨i, sdv, _, _, _, rfl, _⟩ | ⟨c, _, _, rfl, _⟩
  · exact Or.inl (bumpN_map coords (fun _ => rfl) s.rows i)
  · exact Or.inl rfl
  · exact Or.inl (modAt_map (fun r => mergeRow r y sdv) coords (fun _ => rfl) s.rows i)
  · exact Or.inr List.map_append

theorem ne_of_match {l : List Row} {x : Pt} {i j : Nat} {r : Row} (hj : l[j]? = some r) (hne : (r.x == x) = false)
    (hi : ∃ r', l[i]? = some r' ∧ (r'.x == x) = true) : j ≠ i := by
  rintro rfl
  obtain ⟨r', hr', hx⟩ := hi
  cases hj.symm.trans hr'
  exact Bool.false_ne_true (hne.symm.trans hx)

/-- FRAME: an operation at point `x` changes no record whose point is different from `x`. -/
theorem record_frame (s : St) (xo x : Pt) (y : Rat) (sd : Option Rat) (rd : Bool) (s' : St) (v : Rat)
    (idx : Option Nat) (h : record s xo x y sd rd = .ok (s', v, idx))
    (j : Nat) (r : Row) (hj : s.rows[j]? = some r) (hne : (r.x == x) = false) : s'.rows[j]? = some r := by
  rcases record_cases s xo x y sd rd s' v idx h with ⟨i, _, h1, rfl, _⟩ | ⟨_, _, rfl, _⟩ | ⟨i, sdv, _, _, h1, rfl, _⟩ | ⟨c, _, _, rfl, _⟩
  · exact (modAt_get_ne _ _ _ _ (ne_of_match hj hne (lastMatch_spec x s.rows i h1))).trans hj
  · exact hj
  · exact (modAt_get_ne _ _ _ _ (ne_of_match hj hne (firstMatch_spec x s.rows i h1))).trans hj
  · exact (List.getElem?_append_left (List.getElem?_eq_some_iff.mp hj).1).trans hj

/-- Every record - not only those at other points - keeps its value, SD and count when the
    cache grows or an evaluation is flagged not to be recorded; only `n_evals` of the record of
    that very point may be incremented. -/
theorem norecord_changes_only_counts (s : St) (xo x : Pt) (y : Rat) (sd : Option Rat) (s' : St) (v : Rat)
    (idx : Option Nat) (h : record s xo x y sd false = .ok (s', v, idx)) :
    s'.rows.map (fun r => (r.xo, r.x, r.y, r.yo, r.tau)) = s.rows.map (fun r => (r.xo, r.x, r.y, r.yo, r.tau)) ∧
    s'.cap = s.cap ∧ s'.xMaxIdx = s.xMaxIdx ∧ v = y := by
  rcases record_cases s xo x y sd false s' v idx h with ⟨i, _, _, rfl, h3, _⟩ | ⟨_, _, rfl, h3, _⟩ | ⟨_, _, ⟨⟩, _⟩ | ⟨_, ⟨⟩, _⟩
  · exact ⟨bumpN_map _ (fun _ => rfl) s.rows i, rfl, rfl, h3⟩
  · exact ⟨rfl, rfl, rfl, h3⟩

/-- VALUE EXACT: without a noise value, a recorded evaluation appends a record holding exactly the
    point and the value returned there (never merged, whatever the log holds). -/
theorem value_exact (s : St) (xo x : Pt) (y : Rat) (s' : St) (v : Rat) (idx : Option Nat)
    (h : record s xo x y none true = .ok (s', v, idx)) :
    s'.rows = s.rows ++ [{ xo := xo, x := x, y := y, yo := y, tau := none, n := 1 }] ∧ v = y ∧
    idx = some s.rows.length :=
  record_appends h (Or.inl rfl)

/-- VALUE EXACT WITHOUT SPECIFIED NOISE: on a logger whose noise is not user-specified, EVERY recorded observation - a call, or a pre-evaluated
    addition that comes with an SD (explicit, or the default 1 of a logger that keeps noise) - appends a record holding exactly the point and
    the value; nothing is ever merged, whatever the log holds. -/
theorem value_exact_without_specified_noise (s : St) (xo x : Pt) (y : Rat) (sd : Option Rat) (s' : St) (v : Rat) (idx : Option Nat)
    (hhe : s.he = false) (h : record s xo x y sd true = .ok (s', v, idx)) :
    s'.rows = s.rows ++ [{ xo := xo, x := x, y := y, yo := y, tau := sd.map (fun v => 1 / (v * v)), n := 1 }] ∧ v = y ∧
    idx = some s.rows.length :=
  record_appends h (Or.inr (Or.inl hhe))

/-- MERGE = PRECISION-WEIGHTED MEAN, one step: merging `(y, sd)` into a record that summarises the
    observations `obs` yields the record summarising `obs ++ [(y, 1/sd²)]`:
    `Y · Σ 1/sⱼ² = Σ yⱼ/sⱼ²`, `1/S² = Σ 1/sⱼ²`, `n_evals = number of observations`. -/
theorem mergeRow_ok (r : Row) (obs : List Obs) (y sd : Rat) (hsd : sd ≠ 0) (h : RowOK r obs) :
    RowOK (mergeRow r y sd) (obs ++ [(y, 1 / (sd * sd))]) := by
  obtain ⟨h1, h2, h3, h4⟩ := h
  have hsum := add_pos h4 (prec_pos hsd)
  refine ⟨?_, ?_, ?_, ?_⟩
  · simp only [mergeRow, h1, Option.getD_some, tsum_snoc]
  · simp only [mergeRow, h1, Option.getD_some, tsum_snoc, wsum_snoc]
    rw [Rat.div_mul_cancel hsum.ne', ← h2]
    ring
  · simp only [mergeRow, h3, List.length_append, List.length_singleton]
  · rw [tsum_snoc]
    exact hsum

/-- A fresh record summarises its single observation. -/
theorem fresh_row_ok (xo x : Pt) (y sd : Rat) (hsd : sd ≠ 0) :
    RowOK { xo := xo, x := x, y := y, yo := y, tau := some (1 / (sd * sd)), n := 1 } [(y, 1 / (sd * sd))] := by
  simp only [RowOK, tsum, wsum, add_zero, List.length_singleton, true_and]
  exact ⟨mul_comm _ _, prec_pos hsd⟩

/-- MERGED VALUE WITHIN RANGE (used by C19): the stored value of a record lies between the smallest
    and the largest observation made at that point. -/
theorem merged_value_within_range (r : Row) (obs : List Obs) (a b : Rat) (h : RowOK r obs)
    (hp : ∀ o ∈ obs, 0 < o.2) (hr : ∀ o ∈ obs, a ≤ o.1 ∧ o.1 ≤ b) : a ≤ r.y ∧ r.y ≤ b := by
  obtain ⟨_, h2, _, h4⟩ := h
  have := wsum_bounds obs a b hp hr
  rw [← h2] at this
  exact ⟨Rat.le_of_mul_le_mul_right this.1 h4, Rat.le_of_mul_le_mul_right this.2 h4⟩

/-- In a merge, the record that changes is the record of that very point (first record whose
    coordinates all match), and it changes by `mergeRow`. -/
theorem merge_hits_own_record (s : St) (xo x : Pt) (y sdv : Rat) (s' : St) (v : Rat) (idx : Option Nat)
    (h : record s xo x y (some sdv) true = .ok (s', v, idx)) (hhe : s.he = true) (i : Nat) (hf : firstMatch x s.rows = some i) :
    ∃ r, s.rows[i]? = some r ∧ (r.x == x) = true ∧ s'.rows[i]? = some (mergeRow r y sdv) ∧
      s'.rows.length = s.rows.length ∧ idx = some i := by
  rcases record_cases s xo x y (some sdv) true s' v idx h with ⟨_, ⟨⟩, _⟩ | ⟨⟨⟩, _⟩ | ⟨i', sdv', _, ⟨h0, _⟩, h1, rfl, h4⟩ | ⟨c, _, h1, _⟩
  · cases h0
    cases hf.symm.trans h1
    obtain ⟨r, hr, hx⟩ := firstMatch_spec x s.rows i hf
    exact ⟨r, hr, hx, modAt_get_eq _ _ _ _ hr, modAt_length _ _ _, h4⟩
  · simp [hhe, hf] at h1

/-- COUNTS: `func_count` goes up by exactly one on every call that returned a valid value and is
    untouched by `add`; a rejected call changes nothing (the error carries no state). -/
theorem call_fc (s : St) (xo x : Pt) (out : Outcome) (rd : Bool) (s' : St) (r : Ret)
    (h : call s xo x out rd = .ok (s', r)) : s'.fc = s.fc + 1 := by
  obtain ⟨y, sd, s1, v, idx, hrec, rfl, _⟩ := call_eq_ok h
  obtain ⟨_, _, _, rfl⟩ := record_writes hrec
  rfl

/-- The error a rejected call surfaces: the target's own exception if it raised, `ValueError` for
    every invalid value; (shared with C10). -/
theorem call_error_kind (s : St) (xo x : Pt) (rd : Bool) :
    call s xo x .raises rd = .error .targetError ∧
    call s xo x .otherTuple rd = .error .valueError ∧
    call s xo x (.scalar none) rd = .error .valueError ∧
    (∀ sd, call s xo x (.pair none sd) rd = .error .valueError) ∧
    (∀ y, call s xo x (.pair y none) rd = .error .valueError) ∧
    (s.he = true → ∀ y, call s xo x (.scalar y) rd = .error .valueError) ∧
    (s.he = false → ∀ y sd, call s xo x (.pair y sd) rd = .error .valueError) := by
  -- with an invalid component, both branches of the test on `he` are the `ValueError`
  refine ⟨rfl, rfl, ite_self _, fun _ => ite_self _, fun y => ?_, ?_, ?_⟩
  · cases y <;> exact ite_self _
  · intro h y; simp [call, h]
  · intro h y sd; simp [call, h]

/-- Coordinates of existing records survive ANY operation sequence: the coordinate columns after
    the sequence extend those before it (records are only ever appended, in call order). -/
theorem runOps_coords_prefix : ∀ (ops : List Op) (s : St),
    ∃ ext, (runOps s ops).rows.map coords = s.rows.map coords ++ ext := by
  intro ops s
  refine runOps_induction (fun t => ∃ ext, t.rows.map coords = s.rows.map coords ++ ext) ?_ ops s ⟨[], (List.append_nil _).symm⟩
  rintro t op t' r hstep ⟨ext, hext⟩
  obtain ⟨cc, fc, xo, x, y, sd, rd, s1, v, idx, hrec, rfl⟩ := step_eq_ok hstep
  rcases record_coords _ xo x y sd rd s1 v idx hrec with e | e
  · exact ⟨ext, e.trans hext⟩
  · exact ⟨ext ++ [(xo, x)], by rw [e, hext, List.append_assoc]⟩

/-! Non-vacuity: a repeat at a logged point under specified noise, with another record sharing one
    coordinate: the merge lands in the point's own record and leaves the other one alone. -/
example :
    let s0 := init 1 true true
    let s := runOps s0 [.call [0, 1] [0, 1] (.pair (some 2) (some 1)) true,
                        .call [0, 5] [0, 5] (.pair (some 7) (some 2)) true,
                        .call [0, 5] [0, 5] (.pair (some 3) (some 2)) true]
    s.rows.map (fun r => (r.x, r.y, r.tau, r.n)) = [([0, 1], 2, some 1, 1), ([0, 5], 5, some (1/2), 2)] ∧ s.fc = 3 ∧ s.cap = 2 := by
  decide +kernel

end Bads.Log
