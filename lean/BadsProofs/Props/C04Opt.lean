/-
  C04 on the model of ONE WHOLE CALL of `optimize()` (Optimize.lean), for a DETERMINISTIC target:

  if the target repeats itself at the start point (so the noise test finds nothing), every GP "estimate" handed to the incumbent logic is
  the observed value itself (`f = y`, which is what the code uses at uncertainty level 0) and nothing is re-estimated, then - for every
  Sobol design, every candidate set, every acquisition ranking, every threshold and stall flag, and every number of iterations -

    * `det_optimize_best`      the returned `fval` is the value observed at the returned point, that pair is one of the run's evaluations,
                               and NO evaluation of the whole run (start point, initial design, every search and poll step) has a lower value;
                               nothing is re-sampled at the end: `yval_vec` is that single observation.

  (The component theorems `Inc.result_truthful` / `Det.det_run_spec` say this for the incumbent logic and for the loop started from a given
  state; here the initial phase is part of the model and the composed `Full` loop is the one that also serves the noisy modes.)
-/
import BadsProofs.Props.C05Opt

namespace Bads.Opt

/-- the incumbent estimate is the incumbent's own observation, and nothing evaluated so far is lower -/
def DInv (ns : Noisy.St) (ev : List (Pt × Rat)) : Prop := ns.fval = ns.yval ∧ ∀ p ∈ ev, ns.fval ≤ p.2

/-- the estimate of a candidate is its observed value (uncertainty level 0) -/
def detCand (c : Noisy.Cand) : Prop := c.f = c.y

theorem pollBest_spec (fval : Rat) : ∀ (cs : List Noisy.Cand) (best : Rat) (arg : Option Noisy.Cand),
    best ≤ (Noisy.pollBest fval cs best arg).1 ∧ (∀ c ∈ cs, fval - c.f ≤ (Noisy.pollBest fval cs best arg).1) ∧
    (((Noisy.pollBest fval cs best arg).2 = arg ∧ (Noisy.pollBest fval cs best arg).1 = best) ∨
     ∃ c ∈ cs, (Noisy.pollBest fval cs best arg).2 = some c ∧ (Noisy.pollBest fval cs best arg).1 = fval - c.f) := by
  intro cs best arg
  rw [Noisy.pollBest_eq_bestFold]
  rcases bestFold_cases (fun c => fval - c.f) cs best arg with ⟨hr, hle⟩ | ⟨x, hx, hr, hlt, hmax⟩
  · rw [hr]
    exact ⟨le_refl _, hle, Or.inl ⟨rfl, rfl⟩⟩
  · rw [hr]
    exact ⟨le_of_lt hlt, hmax, Or.inr ⟨x, hx, rfl, rfl⟩⟩

/-- The invariant passes to a state whose estimate is its own observation, is no higher than before and bounds the new values. -/
theorem DInv.extend {s s' : Noisy.St} {ev new : List (Pt × Rat)} (h : DInv s ev) (he : s'.fval = s'.yval) (hle : s'.fval ≤ s.fval)
    (hnew : ∀ p ∈ new, s'.fval ≤ p.2) : DInv s' (ev ++ new) :=
  ⟨he, fun p hp => (List.mem_append.mp hp).elim (fun hp => hle.trans (h.2 p hp)) (hnew p)⟩

theorem search_dinv (s : Noisy.St) (ev : List (Pt × Rat)) (c : Option Noisy.Cand) (hc : ∀ x, c = some x → detCand x) (h : DInv s ev) :
    DInv (Noisy.searchUpdate s c) (ev ++ (c.map Noisy.candPair).toList) := by
  rcases Noisy.searchUpdate_cases s c with ⟨hs, hle⟩ | ⟨x, hx, hs, hlt⟩ <;> rw [hs]
  · refine h.extend h.1 le_rfl fun p hp => ?_
    obtain ⟨x, rfl, rfl⟩ := Option.map_eq_some_iff.mp (Option.mem_toList.mp hp)
    exact (hle x rfl).trans_eq (hc x rfl)
  · cases hx
    refine h.extend (hc x rfl) hlt.le fun p hp => ?_
    obtain rfl : p = Noisy.candPair x := List.mem_singleton.mp hp
    exact (hc x rfl).le

theorem poll_dinv (s : Noisy.St) (ev : List (Pt × Rat)) (cs : List Noisy.Cand) (hc : ∀ c ∈ cs, detCand c) (h : DInv s ev) :
    DInv (Noisy.pollUpdate s cs) (ev ++ cs.map Noisy.candPair) := by
  rcases Noisy.pollUpdate_cases s cs with ⟨hs, hle⟩ | ⟨c, hcm, hs, hlt, hmin⟩ <;> rw [hs]
  · refine h.extend h.1 le_rfl fun p hp => ?_
    obtain ⟨c, hcm, rfl⟩ := List.mem_map.mp hp
    exact (hle c hcm).trans_eq (hc c hcm)
  · refine h.extend (hc c hcm) hlt.le fun p hp => ?_
    obtain ⟨c', hcm', rfl⟩ := List.mem_map.mp hp
    exact (hmin c' hcm').trans_eq (hc c' hcm')

/-- an iteration of a deterministic run: observed values as estimates, nothing re-estimated -/
def DetIter (i : Noisy.Iter) : Prop :=
  i.reVals = none ∧ (∀ c, i.search = some (some c) → detCand c) ∧ (∀ cs, i.poll = some cs → ∀ c ∈ cs, detCand c)

theorem iterStep_dinv (tol : Rat) (s : Noisy.St) (ev : List (Pt × Rat)) (i : Noisy.Iter) (hi : DetIter i) (h : DInv s ev) :
    DInv (Noisy.iterStep tol s i) (ev ++ Noisy.candsOf i) := by
  obtain ⟨hre, hs, hp⟩ := hi
  have h1 : DInv (Noisy.st1 s i) (ev ++ Noisy.sCands i) := by
    rw [Noisy.st1_eq, Noisy.sCands_eq]
    exact search_dinv s ev _ (fun x hx => hs x (Option.join_eq_some_iff.mp hx)) h
  have h3 : DInv (Noisy.st3 (Noisy.st1 s i) i) (ev ++ Noisy.candsOf i) := by
    rw [Noisy.st3_eq, Noisy.candsOf, Noisy.pCands_eq, ← List.append_assoc]
    refine poll_dinv _ _ _ (fun c hc => ?_) h1
    cases hpl : i.poll with
    | none => rw [hpl] at hc; cases hc
    | some cs => rw [hpl] at hc; exact hp cs hpl c hc
  rcases Noisy.iterStep_cases tol s i with ⟨_, hst⟩ | ⟨_, hst | ⟨vals, hv, _⟩⟩
  · rw [hst]; exact h3
  · rw [hst]; exact h3
  · rw [hre] at hv; cases hv

/-- the oracle of a deterministic loop iteration -/
def DetOrc (q : Full.Orc) : Prop :=
  q.reVals = none ∧ (∀ v, q.searchVal = some v → v.f = v.y) ∧ ∀ v ∈ q.pollVals, v.f = v.y

theorem zipCands_det : ∀ (us : List Pt) (vs : List Full.Val), (∀ v ∈ vs, v.f = v.y) → ∀ c ∈ Full.zipCands us vs, detCand c.1 := by
  intro us vs hv c h
  obtain ⟨u, _, v, hvm, rfl⟩ := Full.zipCands_mem us vs c h
  exact hv v hvm

theorem searchCand_det (e : Full.Env) (s : Full.St) (q : Full.Orc) (hsv : ∀ v, q.searchVal = some v → v.f = v.y)
    (cn : Noisy.Cand × Bool) (hsc : Full.searchCand e s q = some cn) : detCand cn.1 := by
  obtain ⟨_, u, v, _, hv, rfl⟩ := Full.searchCand_some e s q cn hsc
  exact hsv v hv

theorem iterOf_det (e : Full.Env) (s : Full.St) (q : Full.Orc) (hq : DetOrc q) : DetIter (Full.iterOf e s q) := by
  obtain ⟨hre, hsv, hpv⟩ := hq
  refine ⟨hre, fun c hc => ?_, fun cs hcs c hc => ?_⟩
  · have hj : (Full.iterOf e s q).search.join = some c := by rw [hc]; rfl
    rw [Full.iterOf_search_join] at hj
    obtain ⟨cn, hsc, rfl⟩ := Option.map_eq_some_iff.mp hj
    exact searchCand_det e s q hsv cn hsc
  · have hm : c ∈ (Full.iterOf e s q).poll.getD [] := by rw [hcs]; exact hc
    rw [Full.iterOf_poll_getD] at hm
    obtain ⟨cn, hcn, rfl⟩ := List.mem_map.mp hm
    exact zipCands_det _ _ hpv cn (Full.pollCands_eq e s q ▸ hcn)

theorem step_dinv (e : Full.Env) (s : Full.St) (q : Full.Orc) (hq : DetOrc q) (h : DInv s.ns s.pairs) :
    DInv (Full.step e s q).ns (Full.step e s q).pairs := by
  rw [Full.step_ns, Full.step_pairs, ← Full.candsOf_iterOf]
  exact iterStep_dinv e.tolFun s.ns s.pairs _ (iterOf_det e s q hq) h

theorem run_dinv (e : Full.Env) : ∀ (qs : List Full.Orc) (s : Full.St), (∀ q ∈ qs, DetOrc q) → DInv s.ns s.pairs →
    DInv (Full.run e qs s).ns (Full.run e qs s).pairs :=
  fun qs s hq h => Full.run_induction e (fun s => DInv s.ns s.pairs) qs s h fun q hqm s _ h => step_dinv e s q (hq q hqm) h

theorem zip3_vals : ∀ (us : List Pt) (vs : List (Rat × Bool)) (d : Pt × Rat × Bool), d ∈ zip3 us vs → (d.2.1, d.2.2) ∈ vs := by
  intro us vs d h
  rw [zip3_eq_map_zip] at h
  obtain ⟨p, hp, rfl⟩ := List.mem_map.mp h
  exact (List.of_mem_zip hp).2

theorem foldRows_all_new : ∀ (es : List (Pt × Rat × Bool)) (rows : List (Pt × Rat)), (∀ d ∈ es, d.2.2 = true) →
    foldRows rows es = rows ++ es.map (fun d => (d.1, d.2.1)) := by
  intro es
  induction es with
  | nil => exact fun rows _ => (List.append_nil rows).symm
  | cons d es ih =>
    intro rows h
    obtain ⟨hd, hes⟩ := List.forall_mem_cons.mp h
    rw [foldRows, hd, updRows, ih _ hes, List.append_assoc]
    rfl

/-- a deterministic target: identical values at the start point (the noise test is negative), and a logger that never merges (every
    recorded evaluation of a deterministic run is a new row): the first incumbent is the best point of the whole initial phase -/
theorem init_dinv (e : Env) (io : InitOrc) (hy : io.y0 = io.y0bis) (hnew : ∀ v ∈ io.vals, v.2 = true) :
    DInv (init e io).ns (init e io).pairs := by
  obtain ⟨_, hmin, hfv⟩ := init_incumbent e io
  have hrows : initRows e io = (io.u0, io.y0) :: (designEvals e io).map (fun d => (d.1, d.2.1)) := by
    unfold initRows
    rw [foldRows_all_new]
    · rfl
    · exact fun d hd => hnew _ (zip3_vals _ _ d (List.mem_ite_nil_right.mp hd).2)
  refine ⟨hfv, fun p hp => hfv ▸ hmin p ?_⟩
  -- the noise test returned the start point's own value, so every logged pair of the initial phase is a row
  rw [hrows, List.mem_cons, List.mem_map]
  rcases (mem_initPairs e io p).mp hp with h | ⟨_, h⟩ | ⟨d, hd, h⟩
  · exact Or.inl h
  · exact Or.inl (hy ▸ h)
  · exact Or.inr ⟨d, hd, h.symm⟩

/-- C04, END TO END, for a deterministic target: the returned value is the value observed at the returned point, that evaluation is one of
    the run's, and no evaluation of the whole run - start point, initial design, every search and poll step - has a lower value;
    nothing is re-sampled at the end. -/
theorem det_optimize_best (e : Env) (hb : boxOK e.full.pipe.lb e.full.pipe.ub = true) (hn : 1 ≤ e.full.o.nTry)
    (io : InitOrc) (hi : InitOK e io) (hf : Fits e io) (qs : List Full.Orc) (hq : RunOK e io qs) (fo : FinalOrc)
    (h0 : e.unc0 = 0) (ht : 0 ≤ e.tolNoise) (hy : io.y0 = io.y0bis) (hnew : ∀ v ∈ io.vals, v.2 = true) (hdet : ∀ q ∈ qs, DetOrc q) :
    ((optimize e io qs fo).u, (optimize e io qs fo).fval) ∈ (optimize e io qs fo).loop.pairs ∧
    (∀ p ∈ (optimize e io qs fo).loop.pairs, (optimize e io qs fo).fval ≤ p.2) ∧
    (optimize e io qs fo).yvec = [(optimize e io qs fo).fval] ∧
    (optimize e io qs fo).calls.length = (optimize e io qs fo).loop.pairs.length := by
  obtain ⟨hu, hk, _, _⟩ := deterministic_untouched e io h0 ht hy
  have hd : DInv (optimize e io qs fo).loop.ns (optimize e io qs fo).loop.pairs :=
    run_dinv (loopEnv e (init e io)) qs (loopStart e (init e io)) hdet (init_dinv e io hy hnew)
  -- no final choice and no final samples: the result is the loop's incumbent with its own observation
  have hfin : finalNs (init e io) (optimize e io qs fo).loop fo = (optimize e io qs fo).loop.ns :=
    finalNs_of_not _ _ _ fun h => absurd hu (Nat.pos_iff_ne_zero.mp h.1)
  have hmem := returned_x_evaluated e hb hn io hi hf qs hq fo
  obtain ⟨hyv, hfv⟩ := (yvec_spec e io qs fo).1 hk
  rw [hfin] at hmem hyv hfv
  have hlen := congrArg List.length (calls_points e io qs fo)
  rw [hk] at hlen
  exact ⟨by rw [hfv, hd.1]; exact hmem, fun p hp => hfv ▸ hd.2 p hp, by rw [hyv, hfv, hd.1], by simpa using hlen⟩

/-! ### non-vacuity: a concrete deterministic run meets every hypothesis; the model finds the best of everything it evaluated -/
namespace ExampleDet
open Bads.Full.Example
def eD : Env := { full := e1, unc0 := 0, tolNoise := 1/1000000, funEvalStart := 1, nfs := 10, noiseSize := 1, stallIters0 := 4, h0 := 1/4, msi0 := 0 }
def ioD : InitOrc := { u0 := [0], y0 := 1, y0bis := 1, design := [[2], [-2]], vals := [(9, true), (3/2, true)], sdAtMin := 0 }
def w1 : Full.Val := { y := 1/4, f := 1/4, sd := 0, newRow := true }
def w2 : Full.Val := { y := 4, f := 4, sd := 0, newRow := true }
def w3 : Full.Val := { y := 1/8, f := 1/8, sd := 0, newRow := true }
def qD1 : Full.Orc := { h := 1/4, searchU := [[1/2], [3]], searchPick := 0, searchVal := some w1, pollU := [[1], [-1]], pollOrder := [0, 1],
                        pollVals := [w2, w3], thr := 1/2, stallMesh := false, stallStop := false, reVals := none }
def qD2 : Full.Orc := { qD1 with searchU := [[1], [3/4]], searchPick := 1, searchVal := some w2, pollU := [[3/2], [1/2]], pollOrder := [1, 0], pollVals := [w2, w1] }
def foD : FinalOrc := { reVals := [], qs := [], samples := [] }

example : InitOK eD ioD ∧ Fits eD ioD ∧ RunOK eD ioD [qD1, qD2] ∧ eD.unc0 = 0 ∧ 0 ≤ eD.tolNoise ∧ ioD.y0 = ioD.y0bis ∧
    (∀ v ∈ ioD.vals, v.2 = true) ∧ (∀ q ∈ [qD1, qD2], DetOrc q) := by
  refine ⟨⟨by decide +kernel, ?_, by decide +kernel, by decide +kernel, by decide +kernel⟩, ?_, ?_, rfl, by decide +kernel, rfl, by decide +kernel, ?_⟩
  · intro c hc; cases hc
  · unfold Fits; decide +kernel
  · intro q hq
    simp only [List.mem_cons, List.mem_nil_iff, or_false] at hq
    rcases hq with rfl | rfl <;> (unfold Full.OrcOK; decide +kernel)
  · intro q hq
    simp only [List.mem_cons, List.mem_nil_iff, or_false] at hq
    rcases hq with rfl | rfl <;> (unfold DetOrc; decide +kernel)

example : (optimize eD ioD [qD1, qD2] foD).fval = 1/8 ∧ (optimize eD ioD [qD1, qD2] foD).yvec = [1/8] ∧
    (optimize eD ioD [qD1, qD2] foD).calls.length = (optimize eD ioD [qD1, qD2] foD).funcCount := by decide +kernel
end ExampleDet

end Bads.Opt
