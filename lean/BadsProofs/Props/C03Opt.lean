/-
  End-to-end theorems about `Opt.optimize`, the model of ONE WHOLE CALL of `BADS.optimize()` (Optimize.lean): initial phase (start
  point, noise test, filtered initial design, first incumbent, noisy reserve), the loop (`Full.run`) and the final re-sampling.

  For EVERY start point inside the box, every Sobol design, every value the target returns, every per-iteration oracle and every
  final re-estimate:

    * `init_inv`            the state in which the loop is entered satisfies the composed invariant `Full.Inv` - so the
                            hypothesis `Inv e s0` of `Full.full_run_spec` is established from the start point rather than assumed;
    * `optimize_budget`     the COMPLETE sequence of target calls of the run (initial phase + loop + final samples) is no longer than
                            `max_fun_evals`, whenever the initial phase itself fits the budget (the property's proviso), and
                            `func_count` equals its length;
    * `optimize_calls_ok`   every call of the run is made at a point of the hard box that satisfies the non-box constraint;
    * `optimize_terminates` the loop is left with `finished = true` within the ranking bound.

  The whole-call theorems of the other properties (C01Opt .. C19Opt) rest on two facts proved here: `loop_inv` (the loop is left in a
  state satisfying `Full.Inv`) and the call sequence in closed form, `calls_eq` (by its points, `calls_points`: the logged pairs
  followed by the final samples at the returned point).
-/
import BadsModel.Optimize
import BadsProofs.Props.C19Run
import BadsProofs.Props.C04

namespace Bads.Opt

theorem insertBy_length {α : Type} (le : α → α → Bool) (a : α) : ∀ l : List α, (insertBy le a l).length = l.length + 1 :=
  fun l => (insertBy_perm le a l).length_eq

theorem sortBy_length {α : Type} (le : α → α → Bool) : ∀ l : List α, (sortBy le l).length = l.length :=
  fun l => (sortBy_perm le l).length_eq

theorem filterCode_length_le (I : FilterIn) : (filterCode I).length ≤ I.U.length :=
  (filterCode_subperm I).length_le.trans (boxStage_length_le _ _ _ _)

theorem zip3_eq_map_zip : ∀ (us : List Pt) (vs : List (Rat × Bool)), zip3 us vs = (us.zip vs).map fun p => (p.1, p.2.1, p.2.2)
  | [], _ => rfl
  | _ :: _, [] => rfl
  | u :: us, v :: vs => by rw [zip3, zip3_eq_map_zip us vs]; rfl

theorem zip3_length : ∀ (us : List Pt) (vs : List (Rat × Bool)), (zip3 us vs).length ≤ us.length := by
  intro us vs
  rw [zip3_eq_map_zip, List.length_map, List.length_zip]
  exact Nat.min_le_left _ _

theorem zip3_mem : ∀ (us : List Pt) (vs : List (Rat × Bool)) (d : Pt × Rat × Bool), d ∈ zip3 us vs → d.1 ∈ us := by
  intro us vs d h
  rw [zip3_eq_map_zip] at h
  obtain ⟨p, hp, rfl⟩ := List.mem_map.mp h
  exact (List.of_mem_zip hp).1

theorem updRows_mem : ∀ (rows : List (Pt × Rat)) (u : Pt) (y : Rat) (nr : Bool) (r : Pt × Rat),
    r ∈ updRows rows u y nr → r ∈ rows ∨ r = (u, y) := by
  intro rows u y nr r
  fun_induction updRows rows u y nr <;> grind

theorem updRows_length : ∀ (rows : List (Pt × Rat)) (u : Pt) (y : Rat) (nr : Bool),
    (updRows rows u y nr).length = rows.length + (if nr then 1 else 0) := by
  intro rows u y nr
  fun_induction updRows rows u y nr <;> simp [*]

theorem updRows_ne_nil (rows : List (Pt × Rat)) (u : Pt) (y : Rat) (nr : Bool) (h : rows ≠ []) : updRows rows u y nr ≠ [] :=
  List.ne_nil_of_length_pos (by rw [updRows_length]; exact Nat.add_pos_left (List.length_pos_iff.mpr h) _)

theorem foldRows_mem : ∀ (es : List (Pt × Rat × Bool)) (rows : List (Pt × Rat)) (r : Pt × Rat),
    r ∈ foldRows rows es → r ∈ rows ∨ ∃ d ∈ es, r = (d.1, d.2.1) := by
  intro es
  induction es with
  | nil => exact fun _ _ h => Or.inl h
  | cons d es ih =>
    intro rows r h
    rcases ih _ r h with h' | ⟨d', hd', he⟩
    · exact (updRows_mem rows d.1 d.2.1 d.2.2 r h').imp_right fun h'' => ⟨d, List.mem_cons_self, h''⟩
    · exact Or.inr ⟨d', List.mem_cons_of_mem _ hd', he⟩

theorem foldRows_ne_nil : ∀ (es : List (Pt × Rat × Bool)) (rows : List (Pt × Rat)), rows ≠ [] → foldRows rows es ≠ []
  | [], _, h => h
  | _ :: es, rows, h => foldRows_ne_nil es _ (updRows_ne_nil rows _ _ _ h)

theorem foldRows_length_le : ∀ (es : List (Pt × Rat × Bool)) (rows : List (Pt × Rat)),
    (foldRows rows es).length ≤ rows.length + es.length
  | [], rows => Nat.le_refl _
  | d :: es, rows => by
    have h1 := foldRows_length_le es (updRows rows d.1 d.2.1 d.2.2)
    rw [updRows_length] at h1
    rw [foldRows, List.length_cons]
    split at h1 <;> omega

/-- hypotheses on the start of a run: the start point is the checked, gridised one (`Pipe.construct_ok`), the initial search mesh is a
    positive size on which the box is at least one cell wide, the design has the box's dimension -/
def InitOK (e : Env) (io : InitOrc) : Prop :=
  InBox e.full.pipe.lb e.full.pipe.ub io.u0 ∧ (∀ c, e.full.pipe.cons = some c → c io.u0 = false) ∧
  0 < e.h0 ∧ wideB e.h0 e.full.pipe.lb e.full.pipe.ub = true ∧ ∀ p ∈ io.design, p.length = e.full.pipe.lb.length

/-- the property's proviso: the budget is at least the size of the initial phase (start point, noise test, initial design) -/
def Fits (e : Env) (io : InitOrc) : Prop := (initCalls e io).length ≤ e.full.o.budget

theorem designEvals_mem (e : Env) (io : InitOrc) (d : Pt × Rat × Bool) (h : d ∈ designEvals e io) :
    d.1 ∈ filterCode (Pipe.filterIn e.full.pipe true e.h0 (io.design.take (sobolCount (nDesign e io) e.full.o.D)) [io.u0]) :=
  zip3_mem _ _ d (List.mem_ite_nil_right.mp h).2

/-- the initial design evaluates at most as many points as `init_sobol` draws -/
theorem designEvals_length_le (e : Env) (io : InitOrc) : (designEvals e io).length ≤ sobolCount (nDesign e io) e.full.o.D := by
  rw [designEvals]
  split
  · exact (zip3_length _ _).trans ((Pipe.filterIn_length_le _ _ _ _ _).trans (List.length_take_le _ _))
  · exact Nat.zero_le _

theorem initCalls_length (e : Env) (io : InitOrc) :
    (initCalls e io).length = 1 + (if e.unc0 < 1 then 1 else 0) + (designEvals e io).length := by
  unfold initCalls
  rw [List.length_append, List.length_append, List.length_map, apply_ite List.length]
  rfl

/-- the calls of the initial phase are made at the points of its logged pairs, in the same order -/
theorem initCalls_points (e : Env) (io : InitOrc) : (initCalls e io).map (·.1) = (initPairs e io).map (·.1) := by
  unfold initCalls initPairs
  simp only [List.map_append, List.map_map]
  split <;> rfl

theorem initPairs_length (e : Env) (io : InitOrc) : (initPairs e io).length = (initCalls e io).length := by
  simpa using congrArg List.length (initCalls_points e io).symm

/-- size of the initial phase: start point, at most one noise-test call, at most `sobolCount` design points -/
theorem initCalls_le (e : Env) (io : InitOrc) : (initCalls e io).length ≤ 2 + sobolCount (nDesign e io) e.full.o.D := by
  rw [initCalls_length]
  exact Nat.add_le_add (by split <;> decide) (designEvals_length_le e io)

/-- a declared-noisy (or specified-noise) run has no noise test: its initial phase is the start point plus the design -/
theorem initCalls_le_declared (e : Env) (io : InitOrc) (h : 1 ≤ e.unc0) :
    (initCalls e io).length ≤ 1 + sobolCount (nDesign e io) e.full.o.D := by
  rw [initCalls_length, if_neg (Nat.not_lt.mpr h)]
  exact Nat.add_le_add_left (designEvals_length_le e io) _

/-- `init_sobol` draws fewer than four times the requested number of points -/
theorem sobolCount_le (n D : Nat) (hn : 1 ≤ n) : sobolCount n D ≤ 4 * n := by
  have h4 : 2 ^ (clog2 n + 1) ≤ 4 * n := by
    unfold clog2
    split
    · exact Nat.le_trans (by decide) (Nat.mul_le_mul_left 4 hn)
    · -- `2 ^ (log2 (n - 1) + 2)` is `2 ^ log2 (n - 1) * 2 * 2`, and `2 ^ log2 (n - 1) ≤ n - 1`
      have := Nat.log2_self_le (show n - 1 ≠ 0 by omega)
      rw [Nat.pow_succ, Nat.pow_succ]
      omega
  rw [sobolCount]
  split
  · exact h4
  · exact (Nat.pow_le_pow_right Nat.two_pos (Nat.le_succ _)).trans h4

/-- a sufficient size of the budget for the property's proviso: four times the (adjusted) `fun_eval_start` plus the start point and
    the noise test -/
theorem fits_of_room (e : Env) (io : InitOrc) (h : 2 + 4 * nDesign e io ≤ e.full.o.budget) : Fits e io := by
  unfold Fits
  by_cases hn : nDesign e io = 0
  · -- no design: the start point and at most one noise-test call
    have : designEvals e io = [] := if_neg (Nat.not_lt.mpr hn.le)
    rw [initCalls_length, this, List.length_nil]
    exact Nat.le_trans (by split <;> decide) ((Nat.le_add_right 2 _).trans h)
  · exact (initCalls_le e io).trans ((Nat.add_le_add_left (sobolCount_le _ _ (Nat.pos_of_ne_zero hn)) 2).trans h)

theorem design_point_ok (e : Env) (hb : boxOK e.full.pipe.lb e.full.pipe.ub = true) (io : InitOrc) (hi : InitOK e io)
    (d : Pt × Rat × Bool) (hd : d ∈ designEvals e io) :
    InBox e.full.pipe.lb e.full.pipe.ub d.1 ∧ (∀ c, e.full.pipe.cons = some c → c d.1 = false) :=
  Pipe.filterIn_ok e.full.pipe hb true e.h0 _ _ [] ⟨hi.2.2.1, hi.2.2.2.1, fun p hp => hi.2.2.2.2 p (List.mem_of_mem_take hp)⟩ d.1
    (designEvals_mem e io d hd)

/-- the logged pairs of the initial phase: the start point, the noise test there (when the target is to be tested), the design evaluations -/
theorem mem_initPairs (e : Env) (io : InitOrc) (p : Pt × Rat) :
    p ∈ initPairs e io ↔ p = (io.u0, io.y0) ∨ (e.unc0 < 1 ∧ p = (io.u0, io.y0bis)) ∨ ∃ d ∈ designEvals e io, p = (d.1, d.2.1) := by
  rw [initPairs, List.mem_append, List.mem_append, List.mem_singleton, List.mem_map, or_assoc]
  refine or_congr_right (or_congr ?_ (exists_congr fun d => and_congr_right fun _ => eq_comm))
  split
  · rw [List.mem_singleton]; exact (and_iff_right ‹_›).symm
  · exact ⟨fun h => absurd h List.not_mem_nil, fun h => absurd h.1 ‹_›⟩

/-- every call of the initial phase is made inside the hard box at a feasible point -/
theorem initPairs_ok (e : Env) (hb : boxOK e.full.pipe.lb e.full.pipe.ub = true) (io : InitOrc) (hi : InitOK e io) :
    ∀ p ∈ initPairs e io, InBox e.full.pipe.lb e.full.pipe.ub p.1 ∧ (∀ c, e.full.pipe.cons = some c → c p.1 = false) := by
  intro p hp
  rcases (mem_initPairs e io p).mp hp with rfl | ⟨_, rfl⟩ | ⟨d, hd, rfl⟩
  · exact ⟨hi.1, hi.2.1⟩
  · exact ⟨hi.1, hi.2.1⟩
  · exact design_point_ok e hb io hi d hd

theorem initRows_mem (e : Env) (io : InitOrc) (r : Pt × Rat) (h : r ∈ initRows e io) : r ∈ initPairs e io :=
  (mem_initPairs e io r).mpr ((foldRows_mem _ _ r h).imp List.mem_singleton.mp Or.inr)

theorem initRows_ne_nil (e : Env) (io : InitOrc) : initRows e io ≠ [] :=
  foldRows_ne_nil _ _ (by simp)

/-- the first incumbent is a row of the log: a point that was evaluated, with the value the logger holds for it, and no row is lower -/
theorem init_incumbent (e : Env) (io : InitOrc) :
    ((init e io).ns.u, (init e io).ns.yval) ∈ initRows e io ∧ (∀ r ∈ initRows e io, (init e io).ns.yval ≤ r.2) ∧
    (init e io).ns.fval = (init e io).ns.yval := by
  cases ha : Inc.argminFirst (initRows e io) with
  | none => exact absurd (Inc.argminFirst_eq_none.mp ha) (initRows_ne_nil e io)
  | some m =>
    simp only [init, ha, Option.getD_some]
    exact ⟨(Inc.argminFirst_spec _ m ha).1, (Inc.argminFirst_spec _ m ha).2, trivial⟩

theorem init_calls_eq (e : Env) (io : InitOrc) : (init e io).calls = initCalls e io := rfl
theorem init_pairs_eq (e : Env) (io : InitOrc) : (init e io).pairs = initPairs e io := rfl
-- (here and below, `rfl` alone starts by unfolding the right-hand side and is slow to check; the `rfl` that `rw` ends with unfolds nothing)
theorem init_rows_eq (e : Env) (io : InitOrc) : (init e io).rows = initRows e io := by rw [init]

theorem init_nfsEff_le (e : Env) (io : InitOrc) : (init e io).nfsEff ≤ e.full.o.budget - (initCalls e io).length := by
  simp only [init]
  split
  · exact Nat.min_le_right _ _
  · exact Nat.zero_le _

theorem init_budget (e : Env) (io : InitOrc) : (init e io).o.budget = e.full.o.budget - (init e io).nfsEff := by rw [init]
theorem init_nTry (e : Env) (io : InitOrc) : (init e io).o.nTry = e.full.o.nTry := by rw [init]
theorem init_stallIters (e : Env) (io : InitOrc) :
    (init e io).o.stallIters = if uncOf e io > 0 then 2 * e.stallIters0 else e.stallIters0 := by rw [init]
theorem init_fsd (e : Env) (io : InitOrc) :
    (init e io).ns.fsd = if uncOf e io > 1 then io.sdAtMin else if uncOf e io = 1 then e.noiseSize else 0 := by rw [init]

theorem init_pinv (e : Env) (io : InitOrc) : Noisy.PInv (loopStart e (init e io)).ns (loopStart e (init e io)).pairs :=
  ⟨rfl, initRows_mem e io _ (init_incumbent e io).1, fun _ hr => nomatch hr⟩

/-- THE LOOP IS ENTERED IN A STATE THAT SATISFIES THE COMPOSED INVARIANT -/
theorem init_inv (e : Env) (hb : boxOK e.full.pipe.lb e.full.pipe.ub = true) (io : InitOrc) (hi : InitOK e io) (hf : Fits e io) :
    Full.Inv (loopEnv e (init e io)) (loopStart e (init e io)) := by
  have hok := initPairs_ok e hb io hi
  refine ⟨init_pinv e io, fun p hp => (hok p hp).1,
    fun c hc p hp => (hok p hp).2 c hc, Ctl.init_inv _ _ _ _, Ctl.init_binv _ _ _ _ ?_, fun _ => rfl⟩
  -- the loop budget is what the reserve leaves, and the reserve leaves room for the initial phase
  rw [loopEnv, init_budget]
  exact Nat.le_sub_of_add_le (Nat.add_le_of_le_sub' hf (init_nfsEff_le e io))

theorem run_pairs_append (e : Full.Env) : ∀ (qs : List Full.Orc) (s : Full.St), ∃ l, (Full.run e qs s).pairs = s.pairs ++ l :=
  fun qs s => Full.run_induction e (fun r => ∃ l, r.pairs = s.pairs ++ l) qs s ⟨[], (List.append_nil _).symm⟩
    fun q _ r _ ⟨l, hl⟩ => ⟨l ++ Full.newPairs e r q, by rw [Full.step_pairs, hl, List.append_assoc]⟩

/-- `Full.OrcOK` of every iteration's oracle, in the environment the loop of this call runs in -/
def RunOK (e : Env) (io : InitOrc) (qs : List Full.Orc) : Prop := ∀ q ∈ qs, Full.OrcOK (loopEnv e (init e io)) q

theorem finalNs_pinv (i : Init) (s : Full.St) (fo : FinalOrc) (h : Noisy.PInv s.ns s.pairs) : Noisy.PInv (finalNs i s fo) s.pairs := by
  unfold finalNs
  split
  · exact (Noisy.finalChoice_pinv s.ns s.pairs fo.reVals fo.qs h).1
  · exact h

/-- without the final choice (deterministic target, or no poll iteration) the returned iterate is the loop's incumbent, untouched -/
theorem finalNs_of_not (i : Init) (s : Full.St) (fo : FinalOrc) (h : ¬ (i.unc > 0 ∧ s.ctl.c.pollIter > 0)) : finalNs i s fo = s.ns :=
  if_neg h

/-- THE RECORD PART HOLDS AT LOOP EXIT UNCONDITIONALLY - no hypothesis on the box, the start point, the budget or the oracle. -/
theorem loop_record (e : Env) (io : InitOrc) (qs : List Full.Orc) (fo : FinalOrc) :
    Noisy.PInv (optimize e io qs fo).loop.ns (optimize e io qs fo).loop.pairs ∧
      ((optimize e io qs fo).loop.ctl.c.finished = false →
        (optimize e io qs fo).loop.ns.hist.length = (optimize e io qs fo).loop.ctl.c.pollIter) :=
  Full.run_record (loopEnv e (init e io)) qs _ ⟨init_pinv e io, fun _ => rfl⟩

/-- THE LOOP IS LEFT IN A STATE THAT SATISFIES THE COMPOSED INVARIANT -/
theorem loop_inv (e : Env) (hb : boxOK e.full.pipe.lb e.full.pipe.ub = true) (hn : 1 ≤ e.full.o.nTry)
    (io : InitOrc) (hi : InitOK e io) (hf : Fits e io) (qs : List Full.Orc) (hq : RunOK e io qs) (fo : FinalOrc) :
    Full.Inv (loopEnv e (init e io)) (optimize e io qs fo).loop :=
  Full.run_inv (loopEnv e (init e io)) hb hn qs _ hq (init_inv e hb io hi hf)

/-- THE CALL SEQUENCE OF A WHOLE CALL: the initial phase, one recorded call for every pair the loop logged, `nfsEff` unrecorded calls at
    the returned point. -/
theorem calls_eq (e : Env) (io : InitOrc) (qs : List Full.Orc) (fo : FinalOrc) :
    (optimize e io qs fo).calls =
      initCalls e io ++ ((optimize e io qs fo).loop.pairs.drop (initPairs e io).length).map (fun p => (p.1, true)) ++
        List.replicate (init e io).nfsEff ((optimize e io qs fo).u, false) := rfl

/-- ... by its points: the points of the logged pairs (initial phase, then loop), in order, followed by `nfsEff` calls at the returned
    point. -/
theorem calls_points (e : Env) (io : InitOrc) (qs : List Full.Orc) (fo : FinalOrc) :
    (optimize e io qs fo).calls.map (·.1) =
      (optimize e io qs fo).loop.pairs.map (·.1) ++ List.replicate (init e io).nfsEff (optimize e io qs fo).u := by
  obtain ⟨l, hl⟩ := run_pairs_append (loopEnv e (init e io)) qs (loopStart e (init e io))
  have hl' : (optimize e io qs fo).loop.pairs = initPairs e io ++ l := hl
  rw [calls_eq, hl', List.drop_left]
  simp [initCalls_points, Function.comp_def]

/-- C03, END TO END: the complete sequence of target calls of a run - initial phase, loop, final re-sampling - is no longer than
    `max_fun_evals` whenever the initial phase fits the budget, and the reported `func_count` is its length. -/
theorem optimize_budget (e : Env) (hb : boxOK e.full.pipe.lb e.full.pipe.ub = true) (hn : 1 ≤ e.full.o.nTry)
    (io : InitOrc) (hi : InitOK e io) (hf : Fits e io) (qs : List Full.Orc) (hq : RunOK e io qs) (fo : FinalOrc) :
    (optimize e io qs fo).calls.length ≤ e.full.o.budget ∧ (optimize e io qs fo).funcCount = (optimize e io qs fo).calls.length := by
  -- the loop counts one call per logged pair and stays within what the reserve leaves; the final samples are the reserve
  have hfc : (optimize e io qs fo).loop.ctl.c.fc + (initPairs e io).length = (initCalls e io).length + (optimize e io qs fo).loop.pairs.length :=
    Full.run_fc (loopEnv e (init e io)) qs (loopStart e (init e io))
  have hle : (optimize e io qs fo).loop.ctl.c.fc + (init e io).nfsEff ≤ e.full.o.budget :=
    Nat.add_le_of_le_sub ((init_nfsEff_le e io).trans (Nat.sub_le _ _))
      ((loop_inv e hb hn io hi hf qs hq fo).2.2.2.2.1.1.trans_eq (init_budget e io))
  have hlen := congrArg List.length (calls_points e io qs fo)
  simp only [List.length_map, List.length_append, List.length_replicate] at hlen
  rw [initPairs_length] at hfc
  have hp : (optimize e io qs fo).loop.ctl.c.fc = (optimize e io qs fo).loop.pairs.length := by omega
  -- `funcCount` is `fc + nfsEff` by definition
  rw [hlen, ← hp]
  exact ⟨hle, rfl⟩

/-- C01 / C02, END TO END: every target call of a run - initial phase, loop and final re-sampling - is made at a point of the hard box
    that satisfies the non-box constraint. -/
theorem optimize_calls_ok (e : Env) (hb : boxOK e.full.pipe.lb e.full.pipe.ub = true) (hn : 1 ≤ e.full.o.nTry)
    (io : InitOrc) (hi : InitOK e io) (hf : Fits e io) (qs : List Full.Orc) (hq : RunOK e io qs) (fo : FinalOrc) :
    ∀ c ∈ (optimize e io qs fo).calls, InBox e.full.pipe.lb e.full.pipe.ub c.1 ∧ (∀ cf, e.full.pipe.cons = some cf → cf c.1 = false) := by
  obtain ⟨hp, hbox, hcons, _⟩ := loop_inv e hb hn io hi hf qs hq fo
  -- every call is made at the point of a logged pair; the final samples at the returned iterate, which was evaluated before
  intro c hc
  have := List.mem_map_of_mem (f := (·.1)) hc
  rw [calls_points, List.mem_append, List.mem_map, List.mem_replicate] at this
  obtain ⟨p, hp', he⟩ : ∃ p ∈ (optimize e io qs fo).loop.pairs, p.1 = c.1 :=
    this.elim id fun h => ⟨_, (finalNs_pinv (init e io) _ fo hp).2.1, h.2.symm⟩
  exact he ▸ ⟨hbox p hp', fun cf hcf => hcons cf hcf p hp'⟩

/-- the loop of a whole run is left with `finished = true` once the oracle stream is longer than the ranking bound -/
theorem optimize_terminates (e : Env) (hn : 1 ≤ e.full.o.nTry) (io : InitOrc) (qs : List Full.Orc) (fo : FinalOrc)
    (hlen : (e.full.o.nTry + 1) * (e.full.o.maxIter + e.full.o.budget) < qs.length) :
    (optimize e io qs fo).loop.ctl.c.finished = true := by
  refine Full.full_terminates (loopEnv e (init e io)) hn qs _ (Ctl.init_inv _ _ _ _) (Nat.lt_of_le_of_lt ?_ hlen)
  -- the ranking bound of the loop's options (the budget after the reserve) is at most that of the user's
  unfold loopEnv loopStart init
  exact (Ctl.rank_init_le _ _ _ _).trans (Nat.mul_le_mul_left _ (Nat.add_le_add_left (Nat.sub_le _ _) _))

end Bads.Opt
