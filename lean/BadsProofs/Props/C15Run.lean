/-
  C15 over WHOLE RUNS - the surrogate's training set as a state machine (GPSet.lean `Ev`/`Sur`, Surrogate.lean `JEv`/`JSt`), for every
  sequence of events:

    * `srun_train`               the training set is what the LAST (re)selection picked, followed by the observations appended since;
    * `select_keeps_selected_set`a local refit leaves the surrogate conditioned on exactly the selected neighbourhood whatever the fit attempts
                                 do (the retries of `_robust_gp_fit_` drop rows from a copy only);
    * `srun_real`                every training triple is a log record handed to some (re)selection or an appended observation;
    * `srun_attempts_agree`      every fit attempt of the run was given arrays of agreeing sizes;
    * `train_at_evaluated_points`(joint with the logger, every noise mode, merges included) every training point is the point of a log record;
    * `train_sub_log_partial`    (joint) as long as no observation is merged into an existing record, every training triple IS a log record:
                                 same point, same value, logged SD squared;
    * `merged_add_counterexample`the full statement fails after a merge (known finding C15-merged-add): the appended triple is no log record;
    * `reselect_restores`        ... but only until the next (re)selection, after which every training triple is a log record again.
-/
import BadsModel.Surrogate
import Mathlib.Data.List.Induction
import BadsProofs.Props.C15
import BadsProofs.Props.C16
import BadsProofs.Props.C12

namespace Bads.GP

theorem srun_snoc (evs : List Ev) (e : Ev) : srun (evs ++ [e]) = sstep (srun evs) e := by
  simp [srun, List.foldl_append]

/-- specification of the training set, read off the event list backwards: appended observations down to the last (re)selection -/
def trainSpec : List Ev → List Train
  | [] => []
  | .add x y sd :: before => trainSpec before ++ [toTrain { x := x, y := y, s := sd }]
  | .initial log _ :: _ => fevals log
  | .select log dist r2 nMin nMax buffer _ _ _ _ :: _ => neighbors log dist r2 nMin nMax buffer

theorem sstep_train_initial (s : Sur) (log : List Obs) (fails : List Bool) : (sstep s (.initial log fails)).train = fevals log := by
  simp only [sstep]

/-- A LOCAL REFIT KEEPS THE SELECTED SET WHOLE, for every schedule of failing attempts and every choice of dropped rows. -/
theorem select_keeps_selected_set (s : Sur) (log : List Obs) (dist : List Rat) (r2 : Rat) (nMin nMax buffer : Int) (nTry ra : Nat)
    (fails : List Bool) (drops : List Nat) :
    (sstep s (.select log dist r2 nMin nMax buffer nTry ra fails drops)).train = neighbors log dist r2 nMin nMax buffer := by
  simp only [sstep]

theorem srun_train (evs : List Ev) : (srun evs).train = trainSpec evs.reverse := by
  induction evs using List.reverseRecOn with
  | nil => rfl
  | append_singleton evs e ih =>
    rw [srun_snoc, List.reverse_append, List.reverse_singleton, List.singleton_append]
    cases e with
    | initial log fails => rw [sstep_train_initial]; rfl
    | select log dist r2 a b c n ra f d => rw [select_keeps_selected_set]; rfl
    | add x y sd => simp only [sstep, trainSpec, ih, addPoint_is_last]

/-- the log snapshots and the appended observations of an event list -/
def logsOf : List Ev → List (List Obs)
  | [] => []
  | .initial log _ :: es => log :: logsOf es
  | .select log _ _ _ _ _ _ _ _ _ :: es => log :: logsOf es
  | .add _ _ _ :: es => logsOf es

def addsOf : List Ev → List Obs
  | [] => []
  | .add x y sd :: es => { x := x, y := y, s := sd } :: addsOf es
  | _ :: es => addsOf es

theorem trainSpec_real : ∀ (rev : List Ev) (t : Train), t ∈ trainSpec rev →
    (∃ log ∈ logsOf rev, ∃ o ∈ log, t = toTrain o) ∨ (∃ o ∈ addsOf rev, t = toTrain o) := by
  intro rev t h
  induction rev with
  | nil => exact absurd h List.not_mem_nil
  | cons e before ih =>
    cases e with
    | add x y sd =>
      rcases List.mem_append.mp h with h | h
      · exact (ih h).imp_right (Exists.imp fun o => And.imp_left (List.mem_cons_of_mem _))
      · exact Or.inr ⟨_, List.mem_cons_self, List.mem_singleton.mp h⟩
    | initial log f =>
      exact Or.inl ⟨log, List.mem_cons_self, fevals_variance log t h⟩
    | select log dist r2 a b c n ra f d =>
      cases t
      obtain ⟨o, ho, rfl, rfl, rfl⟩ := neighbors_sub_log log dist r2 a b c _ h
      exact Or.inl ⟨log, List.mem_cons_self, o, ho, rfl⟩

theorem logsOf_append (a b : List Ev) : logsOf (a ++ b) = logsOf a ++ logsOf b := by
  induction a with
  | nil => rfl
  | cons e es ih => cases e <;> simp [logsOf, ih]

theorem addsOf_append (a b : List Ev) : addsOf (a ++ b) = addsOf a ++ addsOf b := by
  induction a with
  | nil => rfl
  | cons e es ih => cases e <;> simp [addsOf, ih]

theorem logsOf_reverse_mem (evs : List Ev) (l : List Obs) : l ∈ logsOf evs.reverse ↔ l ∈ logsOf evs := by
  induction evs with
  | nil => simp
  | cons e es ih =>
    rw [List.reverse_cons, logsOf_append, List.mem_append]
    cases e <;> simp [logsOf, ih, or_comm]

theorem addsOf_reverse_mem (evs : List Ev) (o : Obs) : o ∈ addsOf evs.reverse ↔ o ∈ addsOf evs := by
  induction evs with
  | nil => simp
  | cons e es ih =>
    rw [List.reverse_cons, addsOf_append, List.mem_append]
    cases e <;> simp [addsOf, ih, or_comm]

/-- REAL OBSERVATIONS ONLY, for every run: each training triple is a record of a log the selection was given (same point, same value,
    logged SD squared) or an observation appended after an evaluation (its SD squared). -/
theorem srun_real (evs : List Ev) : ∀ t ∈ (srun evs).train,
    (∃ log ∈ logsOf evs, ∃ o ∈ log, t = toTrain o) ∨ (∃ o ∈ addsOf evs, t = toTrain o) := by
  intro t ht
  rw [srun_train] at ht
  exact (trainSpec_real _ t ht).imp (Exists.imp fun log => And.imp_left (logsOf_reverse_mem evs log).mp)
    (Exists.imp fun o => And.imp_left (addsOf_reverse_mem evs o).mp)

theorem shapesOf_agree (t : List Train) : (shapesOf t).agree = true := by
  unfold shapesOf Shapes.agree
  cases (t.all (fun r => r.s2.isSome) && !t.isEmpty) <;>
    simp only [Bool.false_eq_true, ↓reduceIte, Bool.and_self, Bool.and_true, Nat.beq_eq_true_eq]

theorem initFit_shapes (sh : Shapes) : ∀ (fails : List Bool), ∀ a ∈ (initFit sh fails).1, a = sh := by
  intro fails a h
  induction fails with
  | nil => exact absurd h List.not_mem_nil
  | cons f fs ih =>
    unfold initFit at h
    split at h
    · exact List.mem_singleton.mp h
    · exact (List.mem_cons.mp h).elim id ih

/-- EVERY FIT ATTEMPT OF THE RUN (initial training, local refits, every retry) is given arrays of agreeing sizes. -/
theorem srun_attempts_agree (evs : List Ev) : ∀ a ∈ (srun evs).attempts, a.agree = true := by
  induction evs using List.reverseRecOn with
  | nil => exact fun _ h => absurd h List.not_mem_nil
  | append_singleton evs e ih =>
    rw [srun_snoc]
    intro a ha
    cases e with
    | add x y sd => exact ih a ha
    | initial log fails =>
      simp only [sstep, List.mem_append] at ha
      rcases ha with ha | ha
      · exact ih a ha
      · rw [initFit_shapes _ fails a ha]; exact shapesOf_agree _
    | select log dist r2 nMin nMax buffer nTry ra fails drops =>
      simp only [sstep, List.mem_append] at ha
      rcases ha with ha | ha
      · exact ih a ha
      · exact robustFit_shapes_agree nTry ra fails _ drops 0 (shapesOf_agree _) a ha

end Bads.GP

namespace Bads.SurRun
open Bads.Log

/-- every training point is the point of a log record -/
def AtLogged (s : JSt) : Prop := ∀ t ∈ s.train, ∃ r ∈ s.log.rows, r.x = t.x

/-- every training triple is a log record: same point, same value, logged SD squared -/
def SubLog (s : JSt) : Prop := ∀ t ∈ s.train, t ∈ s.log.rows.map recOf

/-- what a successful logger call is made of -/
theorem call_ok (s : St) (xo x : Pt) (out : Outcome) (rd : Bool) (s' : St) (r : Ret) (h : call s xo x out rd = .ok (s', r)) :
    ∃ y sd s1 v idx, record s xo x y sd rd = .ok (s1, v, idx) ∧ s' = { s1 with fc := s1.fc + 1 } ∧ r = { fval := v, fsd := sd, idx := idx } :=
  call_eq_ok h

/-- A successful event is an evaluation - a successful `_record` in the log, after which `eval` appends what the logger returned - or a
    (re)selection, which leaves the log alone. -/
theorem jstep_cases {s s' : JSt} {e : JEv} (h : jstep s e = .ok s') :
    (∃ xo x out rd y sd s1 v idx, record s.log xo x y sd rd = .ok (s1, v, idx) ∧
      (e = .evalOnly xo x out rd ∧ s' = { log := { s1 with fc := s1.fc + 1 }, train := s.train } ∨
       e = .eval xo x out ∧ rd = true ∧ s' = { log := { s1 with fc := s1.fc + 1 }, train := GP.addPoint s.train x v sd })) ∨
    (e = .initial ∨ ∃ d r a b c, e = .select d r a b c) ∧ s'.log = s.log := by
  cases e with
  | evalOnly xo x out rd =>
    simp only [jstep] at h
    split at h
    · cases h
    · cases h
      obtain ⟨y, sd, s1, v, idx, hrec, rfl, _⟩ := call_eq_ok ‹_›
      exact Or.inl ⟨xo, x, out, rd, y, sd, s1, v, idx, hrec, Or.inl ⟨rfl, rfl⟩⟩
  | eval xo x out =>
    simp only [jstep] at h
    split at h
    · cases h
    · cases h
      obtain ⟨y, sd, s1, v, idx, hrec, rfl, rfl⟩ := call_eq_ok ‹_›
      exact Or.inl ⟨xo, x, out, true, y, sd, s1, v, idx, hrec, Or.inr ⟨rfl, rfl, rfl⟩⟩
  | initial => cases h; exact Or.inr ⟨Or.inl rfl, rfl⟩
  | select d r a b c => cases h; exact Or.inr ⟨Or.inr ⟨d, r, a, b, c, rfl⟩, rfl⟩

/-- Induction along a successful run; the invariant may speak of the events still to come. -/
theorem jrun_induction (P : JSt → List JEv → Prop) (hstep : ∀ s e es s', jstep s e = .ok s' → P s (e :: es) → P s' es) :
    ∀ (evs : List JEv) (s s' : JSt), P s evs → jrun s evs = .ok s' → P s' [] := by
  intro evs
  induction evs with
  | nil =>
    rintro s s' hP ⟨⟩
    exact hP
  | cons e es ih =>
    intro s s' hP h
    rw [jrun] at h
    split at h
    · cases h
    · rename_i s1 hj
      exact ih s1 s' (hstep s e es s1 hj hP) h

theorem rows_keep_points (s : St) (xo x : Pt) (y : Rat) (sd : Option Rat) (rd : Bool) (s' : St) (v : Rat) (idx : Option Nat)
    (h : record s xo x y sd rd = .ok (s', v, idx)) : ∀ r ∈ s.rows, ∃ r' ∈ s'.rows, r'.x = r.x := by
  intro r hr
  have hm : coords r ∈ s'.rows.map coords := by
    rcases record_coords s xo x y sd rd s' v idx h with e | e <;> rw [e]
    · exact List.mem_map_of_mem hr
    · exact List.mem_append_left _ (List.mem_map_of_mem hr)
  obtain ⟨r', hr', e⟩ := List.mem_map.mp hm
  exact ⟨r', hr', congrArg Prod.snd e⟩

/-- after a recorded call the log holds a record at the point of the call -/
theorem recorded_point_logged (s : St) (xo x : Pt) (y : Rat) (sd : Option Rat) (s' : St) (v : Rat) (idx : Option Nat)
    (h : record s xo x y sd true = .ok (s', v, idx)) : ∃ r ∈ s'.rows, r.x = x := by
  cases hf : firstMatch x s.rows with
  | none =>
    obtain ⟨e, _⟩ := record_appends h (Or.inr (Or.inr hf))
    exact ⟨_, e ▸ List.mem_append_right _ (List.mem_singleton_self _), rfl⟩
  | some i =>
    obtain ⟨r, hr, hx⟩ := firstMatch_spec x s.rows i hf
    obtain ⟨r', hr', e⟩ := rows_keep_points s xo x y sd true s' v idx h r (List.mem_of_getElem? hr)
    exact ⟨r', hr', e.trans (eq_of_beq hx)⟩

theorem neighborsOf_sub (recs : List GP.Train) (dist : List Rat) (r2 : Rat) (a b c : Int) :
    ∀ t ∈ neighborsOf recs dist r2 a b c, t ∈ recs := by
  intro t ht
  simp only [neighborsOf, List.mem_map] at ht
  obtain ⟨p, hp, rfl⟩ := ht
  exact (List.of_mem_zip ((GP.sortBy_perm _ _).mem_iff.mp (List.mem_of_mem_take hp))).1

/-- A (RE)SELECTION CONDITIONS THE SURROGATE ON LOG RECORDS ONLY, whatever it held before -/
theorem reselect_restores (s s' : JSt) (e : JEv) (he : e = .initial ∨ ∃ d r a b c, e = .select d r a b c) (h : jstep s e = .ok s') : SubLog s' := by
  rcases he with rfl | ⟨d, r, a, b, c, rfl⟩
  · cases h; exact fun t ht => ht
  · cases h
    -- with the projections of the new state reduced first the lemma matches as it stands (else `neighborsOf` is unfolded to compare)
    dsimp only [SubLog]
    exact neighborsOf_sub _ d r a b c

theorem atLogged_of_subLog {s : JSt} (h : SubLog s) : AtLogged s := fun t ht => by
  obtain ⟨r, hr, rfl⟩ := List.mem_map.mp (h t ht)
  exact ⟨r, hr, rfl⟩

/-- EVERY TRAINING POINT IS AN EVALUATED POINT - one step, every noise mode, merges included -/
theorem jstep_atLogged (s s' : JSt) (e : JEv) (h : jstep s e = .ok s') (hi : AtLogged s) : AtLogged s' := by
  rcases jstep_cases h with ⟨xo, x, out, rd, y, sd, s1, v, idx, hrec, ht⟩ | ⟨he, _⟩
  · have keep : ∀ t ∈ s.train, ∃ r ∈ s1.rows, r.x = t.x := fun t ht => by
      obtain ⟨r0, hr0, e0⟩ := hi t ht
      obtain ⟨r', hr', e'⟩ := rows_keep_points _ _ _ _ _ _ _ _ _ hrec r0 hr0
      exact ⟨r', hr', e'.trans e0⟩
    rcases ht with ⟨_, rfl⟩ | ⟨_, rfl, rfl⟩
    · exact keep
    · intro t ht
      rcases List.mem_append.mp ht with ht | ht
      · exact keep t ht
      · rw [List.mem_singleton.mp ht]
        exact recorded_point_logged s.log xo x y sd s1 v idx hrec
  · exact atLogged_of_subLog (reselect_restores s s' e he h)

/-- ... for every run, from any state in which it holds (the initial state has an empty training set) -/
theorem train_at_evaluated_points : ∀ (evs : List JEv) (s s' : JSt), AtLogged s → jrun s evs = .ok s' → AtLogged s' :=
  jrun_induction (fun s _ => AtLogged s) fun s e _ s' hj hi => jstep_atLogged s s' e hj hi

/-- the event does not merge an observation into an existing record -/
def Fresh (s : JSt) : JEv → Prop
  | .evalOnly _ x _ rd => rd = false ∨ s.log.he = false ∨ firstMatch x s.log.rows = none
  | .eval _ x _ => s.log.he = false ∨ firstMatch x s.log.rows = none
  | _ => True

def AllFresh : JSt → List JEv → Prop
  | _, [] => True
  | s, e :: es => Fresh s e ∧ match jstep s e with
    | .ok s' => AllFresh s' es
    | .error _ => True

instance (s : JSt) (e : JEv) : Decidable (Fresh s e) := by cases e <;> unfold Fresh <;> infer_instance

instance decAllFresh : (s : JSt) → (evs : List JEv) → Decidable (AllFresh s evs)
  | _, [] => isTrue trivial
  | s, e :: es => by
    unfold AllFresh
    cases h : jstep s e with
    | ok s' => have := decAllFresh s' es; infer_instance
    | error _ => infer_instance

theorem recOf_fresh (xo x : Pt) (y : Rat) (sd : Option Rat) :
    recOf { xo := xo, x := x, y := y, yo := y, tau := sd.map (fun v => 1 / (v * v)), n := 1 } = { x := x, y := y, s2 := sd.map (fun v => v * v) } := by
  cases sd with
  | none => rfl
  | some v => simp only [recOf, Option.map_some, one_div_one_div]

/-- Without a merge, a successful `_record` leaves the records as the GP sees them untouched and appends the observation itself exactly
    when it records. -/
theorem record_recs_eq {s : St} {xo x : Pt} {y : Rat} {sd : Option Rat} {rd : Bool} {s' : St} {v : Rat} {idx : Option Nat}
    (h : record s xo x y sd rd = .ok (s', v, idx)) (hf : rd = false ∨ s.he = false ∨ firstMatch x s.rows = none) :
    v = y ∧ s'.rows.map recOf = s.rows.map recOf ++ if rd then [{ x := x, y := y, s2 := sd.map (fun v => v * v) }] else [] := by
  rcases record_cases s xo x y sd rd s' v idx h with ⟨i, rfl, _, rfl, h3, _⟩ | ⟨rfl, _, rfl, h3, _⟩ | ⟨i, sdv, hrd, h0, h1, _, _⟩ | ⟨c, rfl, _, rfl, h3, _, _⟩
  · exact ⟨h3, (bumpN_map recOf (fun _ => rfl) s.rows i).trans (List.append_nil _).symm⟩
  · exact ⟨h3, by simp⟩
  · simp [hrd, h0.2, h1] at hf
  · exact ⟨h3, by simp only [List.map_append, List.map_cons, List.map_nil, recOf_fresh, ↓reduceIte]⟩

/-- without a merge, a successful `_record` leaves the records as the GP sees them untouched and appends at most the observation itself -/
theorem record_recs (s : St) (xo x : Pt) (y : Rat) (sd : Option Rat) (rd : Bool) (s' : St) (v : Rat) (idx : Option Nat)
    (h : record s xo x y sd rd = .ok (s', v, idx)) (hf : rd = false ∨ s.he = false ∨ firstMatch x s.rows = none) :
    v = y ∧ (s'.rows.map recOf = s.rows.map recOf ∨ (rd = true ∧ s'.rows.map recOf = s.rows.map recOf ++ [{ x := x, y := y, s2 := sd.map (fun v => v * v) }])) := by
  obtain ⟨hv, e⟩ := record_recs_eq h hf
  cases rd with
  | false => exact ⟨hv, Or.inl (by simpa using e)⟩
  | true => exact ⟨hv, Or.inr ⟨rfl, e⟩⟩

theorem jstep_subLog (s s' : JSt) (e : JEv) (h : jstep s e = .ok s') (hf : Fresh s e) (hi : SubLog s) : SubLog s' := by
  rcases jstep_cases h with ⟨xo, x, out, rd, y, sd, s1, v, idx, hrec, ⟨rfl, rfl⟩ | ⟨rfl, rfl, rfl⟩⟩ | ⟨he, _⟩
  · obtain ⟨_, hrows⟩ := record_recs_eq hrec hf
    exact fun t ht => hrows ▸ List.mem_append_left _ (hi t ht)
  · obtain ⟨rfl, hrows⟩ := record_recs_eq hrec (Or.inr hf)
    exact fun t ht => hrows ▸ List.mem_append.mpr ((List.mem_append.mp ht).imp_left (hi t))
  · exact reselect_restores s s' e he h

/-- REAL LOG RECORDS ONLY (partial: runs in which no observation is merged into an existing record) -/
theorem train_sub_log_partial : ∀ (evs : List JEv) (s s' : JSt), SubLog s → AllFresh s evs → jrun s evs = .ok s' → SubLog s' := by
  intro evs s s' hi hf h
  refine (jrun_induction (fun s evs => SubLog s ∧ AllFresh s evs) ?_ evs s s' ⟨hi, hf⟩ h).1
  rintro s e es s' hj ⟨hi, hfe, hfes⟩
  rw [hj] at hfes
  exact ⟨jstep_subLog s s' e hj hfe hi, hfes⟩

theorem jstep_he (s s' : JSt) (e : JEv) (h : jstep s e = .ok s') : s'.log.he = s.log.he := by
  rcases jstep_cases h with ⟨_, _, _, _, _, _, s1, _, _, hrec, ⟨_, rfl⟩ | ⟨_, _, rfl⟩⟩ | ⟨_, hl⟩
  · exact (record_he hrec : s1.he = s.log.he)
  · exact (record_he hrec : s1.he = s.log.he)
  · rw [hl]

theorem allFresh_of_not_he : ∀ (evs : List JEv) (s : JSt), s.log.he = false → AllFresh s evs := by
  intro evs
  induction evs with
  | nil => exact fun _ _ => trivial
  | cons e es ih =>
    intro s hhe
    refine ⟨by cases e <;> simp [Fresh, hhe], ?_⟩
    cases hj : jstep s e with
    | error _ => trivial
    | ok s' => exact ih s' ((jstep_he s s' e hj).trans hhe)

/-- FULL STRENGTH WITHOUT SPECIFIED NOISE: for a deterministic target or one of unknown noise, in every run, at every moment, every training
    triple is a log record (same point, same value). -/
theorem train_sub_log_unspecified_noise (evs : List JEv) (s s' : JSt) (hhe : s.log.he = false) (hi : SubLog s) (h : jrun s evs = .ok s') : SubLog s' :=
  train_sub_log_partial evs s s' hi (allFresh_of_not_he evs s hhe) h

/-! ### the full statement fails after a merge (known finding C15-merged-add), until the next re-selection -/

def j0 : JSt := { log := Log.init 4 true true, train := [] }
def merging : List JEv := [.eval [0] [0] (.pair (some 1) (some 1)), .eval [0] [0] (.pair (some 3) (some 1))]

theorem merged_add_counterexample :
    ∃ s', jrun j0 merging = .ok s' ∧ ¬ SubLog s' ∧ s'.log.rows.map recOf = [{ x := [0], y := 2, s2 := some (1/2) }] ∧
      s'.train = [{ x := [0], y := 1, s2 := some 1 }, { x := [0], y := 2, s2 := some 1 }] := by
  refine ⟨_, rfl, fun h => ?_, by decide +kernel, by decide +kernel⟩
  exact absurd (h { x := [0], y := 1, s2 := some 1 } (by decide +kernel)) (by decide +kernel)

/-- ... and the next local refit puts it right -/
example : ∃ s', jrun j0 (merging ++ [.select [0] 1 1 10 5]) = .ok s' ∧ s'.train = [{ x := [0], y := 2, s2 := some (1/2) }] := ⟨_, rfl, by decide +kernel⟩

/-! non-vacuity of the partial theorem: a noisy run with distinct points, a re-selection that truncates, an unrecorded repeat -/
def fresh3 : List JEv :=
  [.evalOnly [0] [0] (.pair (some 5) (some 2)) true, .evalOnly [1] [1] (.pair (some 6) (some 1)) true, .initial,
   .eval [3] [3] (.pair (some 4) (some 1)), .select [9, 4, 0] 5 2 2 0, .eval [2] [2] (.pair (some 1) (some 3)), .evalOnly [2] [2] (.pair (some 7) (some 1)) false]

example : AllFresh j0 fresh3 ∧ SubLog j0 ∧ ∃ s', jrun j0 fresh3 = .ok s' ∧
    s'.train = [{ x := [3], y := 4, s2 := some 1 }, { x := [1], y := 6, s2 := some 1 }, { x := [2], y := 1, s2 := some 9 }] ∧ s'.log.rows.length = 4 := by
  refine ⟨by decide +kernel, fun t ht => by simp [j0] at ht, _, rfl, by decide +kernel, by decide +kernel⟩

end Bads.SurRun
