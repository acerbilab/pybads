/-
  C05 / C04 / C19 clauses stated on the model of ONE WHOLE CALL of `optimize()` (Optimize.lean), for every oracle:

    * `final_calls_at_returned_x`   the run's call sequence ends with exactly `nfsEff` unrecorded calls at the returned point, where
                                    `nfsEff = min noise_final_samples (max_fun_evals - size of the initial phase)` for a stochastic
                                    target and 0 for a deterministic one;
    * `returned_x_evaluated`        the returned point was evaluated (recorded call) before the final re-sampling, and the value kept
                                    for it (`yval`) is the value the logger returned there;
    * `yvec_spec`                   `yval_vec` is the fresh observations (supplemented by the iterate's own observation when there is
                                    exactly one), `fval` its mean; without final samples `fval` is the iterate's estimate;
    * `deterministic_untouched`     a target that repeats itself at the start point is never re-sampled at the end;
    * a concrete run (`example`) on which every hypothesis holds and every stage of the model does something.
-/
import BadsProofs.Props.C03Opt
import BadsProofs.Props.C05

namespace Bads.Opt

/-- number of final samples: none for a deterministic target, otherwise what the budget leaves of `noise_final_samples` -/
theorem nfsEff_spec (e : Env) (io : InitOrc) :
    (init e io).nfsEff = if uncOf e io > 0 then min e.nfs (e.full.o.budget - (initCalls e io).length) else 0 := by rw [init]

/-- the call sequence ends with `nfsEff` unrecorded calls at the returned point; everything before is the initial phase and the loop -/
theorem final_calls_at_returned_x (e : Env) (io : InitOrc) (qs : List Full.Orc) (fo : FinalOrc) :
    ∃ pre, (optimize e io qs fo).calls = pre ++ List.replicate (init e io).nfsEff ((optimize e io qs fo).u, false) ∧
      pre.length = (optimize e io qs fo).loop.pairs.length - (initCalls e io).length + (initCalls e io).length ∧
      (∀ c ∈ pre.drop (initCalls e io).length, c.2 = true) := by
  refine ⟨_, calls_eq e io qs fo, ?_, ?_⟩
  · rw [List.length_append, List.length_map, List.length_drop, initPairs_length, Nat.add_comm]
  · intro c hc
    rw [List.drop_left] at hc
    obtain ⟨p, _, rfl⟩ := List.mem_map.mp hc
    rfl

/-- the returned point was evaluated earlier in the run, and `yval` is what the logger returned there -/
theorem returned_x_evaluated (e : Env) (hb : boxOK e.full.pipe.lb e.full.pipe.ub = true) (hn : 1 ≤ e.full.o.nTry)
    (io : InitOrc) (hi : InitOK e io) (hf : Fits e io) (qs : List Full.Orc) (hq : RunOK e io qs) (fo : FinalOrc) :
    ((optimize e io qs fo).u, (finalNs (init e io) (optimize e io qs fo).loop fo).yval) ∈ (optimize e io qs fo).loop.pairs :=
  (finalNs_pinv (init e io) _ fo (loop_record e io qs fo).1).2.1

theorem yvec_spec (e : Env) (io : InitOrc) (qs : List Full.Orc) (fo : FinalOrc) :
    let r := optimize e io qs fo
    let ns1 := finalNs (init e io) r.loop fo
    let k := (init e io).nfsEff
    (k = 0 → r.yvec = [ns1.yval] ∧ r.fval = ns1.fval) ∧
    (0 < k → r.yvec = Noisy.yvalVec ns1 (fo.samples.take k) ∧ r.fval = Noisy.meanOf r.yvec) ∧
    (k = 1 → 1 ≤ fo.samples.length → r.yvec = fo.samples.take 1 ++ [ns1.yval]) ∧
    (2 ≤ k → k ≤ fo.samples.length → r.yvec = fo.samples.take k) := by
  intro r ns1 k
  -- unfold down to the record and project (`dsimp only`) first: a bare `rfl` is three times as dear to check
  have hy : r.yvec = if k > 0 then Noisy.yvalVec ns1 (fo.samples.take k) else [ns1.yval] := by
    unfold r optimize finish; dsimp only; rfl
  have hfv : r.fval = if k > 0 then Noisy.meanOf (Noisy.yvalVec ns1 (fo.samples.take k)) else ns1.fval := by
    unfold r optimize finish; dsimp only; rfl
  refine ⟨fun hk => ?_, fun hk => ?_, fun hk hl => ?_, fun hk hl => ?_⟩
  · rw [hy, hfv, hk]; exact ⟨rfl, rfl⟩
  · rw [hfv, hy, if_pos hk, if_pos hk]; exact ⟨rfl, rfl⟩
  · rw [hy, hk, if_pos Nat.one_pos]
    exact if_pos (List.length_take.trans (Nat.min_eq_left hl))
  · rw [hy, if_pos (Nat.lt_of_lt_of_le Nat.two_pos hk)]
    exact Noisy.yvec_several _ _ (by rw [List.length_take, Nat.min_eq_left hl]; omega)

/-- a target declared deterministic that returns identical values at the start point stays deterministic: no reserve, no final samples,
    the loop keeps the whole budget -/
theorem deterministic_untouched (e : Env) (io : InitOrc) (h0 : e.unc0 = 0) (ht : 0 ≤ e.tolNoise) (hy : io.y0 = io.y0bis) :
    uncOf e io = 0 ∧ (init e io).nfsEff = 0 ∧ (init e io).o.budget = e.full.o.budget ∧ (init e io).ns.fsd = 0 := by
  have hu : uncOf e io = 0 := by
    unfold uncOf
    rw [h0, ← hy, Noisy.identical_values_not_noisy io.y0 e.tolNoise ht]
    rfl
  have hk : (init e io).nfsEff = 0 := by rw [nfsEff_spec, hu]; rfl
  exact ⟨hu, hk, by rw [init_budget, hk]; rfl, by rw [init_fsd, hu]; rfl⟩

/-- a target whose two values at the start point differ by more than `tol_noise` is treated as stochastic from then on -/
theorem noisy_detected (e : Env) (io : InitOrc) (h0 : e.unc0 = 0) (hd : io.y0 - io.y0bis > e.tolNoise ∨ io.y0bis - io.y0 > e.tolNoise) :
    uncOf e io = 1 ∧ (init e io).ns.fsd = e.noiseSize ∧ (init e io).o.stallIters = 2 * e.stallIters0 := by
  have hn : Noisy.noiseDetected io.y0 io.y0bis e.tolNoise = true :=
    (Bool.or_eq_true _ _).mpr (hd.imp decide_eq_true decide_eq_true)
  have hu : uncOf e io = 1 := by
    unfold uncOf
    rw [h0, hn]
    rfl
  exact ⟨hu, by rw [init_fsd, hu]; rfl, by rw [init_stallIters, hu]; rfl⟩

/-! ### non-vacuity: a concrete run of an auto-detected noisy target meets every hypothesis, and every stage of the model acts -/
namespace Example
open Bads.Full.Example
def oX : Ctl.Opts := { o1 with budget := 14 }
def eX : Env := { full := { e1 with o := oX }, unc0 := 0, tolNoise := 1/1000000, funEvalStart := 1, nfs := 2, noiseSize := 1,
                  stallIters0 := 2, h0 := 1/4, msi0 := 0 }
def ioX : InitOrc := { u0 := [0], y0 := 1, y0bis := 9/8, design := [[2], [-2], [2]], vals := [(9, true), (3/2, true)], sdAtMin := 0 }
def foX : FinalOrc := { reVals := [(1/2, 1/8), (1/4, 1/8)], qs := [3/4, 1/2], samples := [1/8, 3/8, 5] }

example : InitOK eX ioX ∧ Fits eX ioX ∧ RunOK eX ioX [q1, q2] ∧ boxOK eX.full.pipe.lb eX.full.pipe.ub = true ∧ 1 ≤ eX.full.o.nTry := by
  refine ⟨⟨by decide +kernel, ?_, by decide +kernel, by decide +kernel, by decide +kernel⟩, ?_, ?_, by decide +kernel, by decide⟩
  · intro c hc; cases hc
  · unfold Fits; decide +kernel
  · intro q hq
    simp only [List.mem_cons, List.mem_nil_iff, or_false] at hq
    rcases hq with rfl | rfl <;> (unfold Full.OrcOK; decide +kernel)

/-- start point, noise test (detected), two surviving design points, three loop evaluations, two final samples at the returned point -/
example : (optimize eX ioX [q1, q2] foX).calls =
      [([0], true), ([0], false), ([-2], true), ([2], true), ([-1], true), ([1], true), ([1], true), ([1], false), ([1], false)] ∧
    (optimize eX ioX [q1, q2] foX).yvec = [1/8, 3/8] ∧ (optimize eX ioX [q1, q2] foX).fval = 1/4 ∧
    (optimize eX ioX [q1, q2] foX).funcCount = 9 ∧ (init eX ioX).o.budget = 12 ∧ (init eX ioX).unc = 1 := by decide +kernel
end Example

end Bads.Opt
