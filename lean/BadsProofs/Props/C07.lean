/-
  C07 - A fixed random_seed makes runs reproducible, independent of process history. (PARTIAL)

  For an ARBITRARY generator, arbitrary programs and arbitrary foreign activity before the
  construction and between construction and run.  The model knows only the entropy that flows
  through the global generator state; hash randomisation, BLAS threading, wall-clock dependent
  branches or a library drawing from its own `default_rng()` are outside it - they are what the
  differential pair (same run after a foreign process history) can expose, as testing.
-/
import BadsModel.Rng

namespace Bads.Rng

variable {S X R : Type}

theorem exec_foreign_only (reseed : Nat → S) (A : Inst S X R) : ∀ (fs : List (S → S)) (p : PState S X R),
    (exec reseed A p (fs.map Ev.foreign)).x0 = p.x0 ∧ (exec reseed A p (fs.map Ev.foreign)).result = p.result
  | [], _ => ⟨rfl, rfl⟩
  | f :: fs, p => exec_foreign_only reseed A fs (step reseed A p (.foreign f))

/-- Seeded, the start point fixed at construction is one and the same from every process state ... -/
theorem construct_x0 (reseed : Nat → S) {A : Inst S X R} {n : Nat} (hs : A.seed = some n) :
    ∃ x, ∀ p : PState S X R, (step reseed A p .construct).x0 = some x := by
  simp only [step, hs]
  cases A.drawX0 with
  | none => exact ⟨_, fun _ => rfl⟩
  | some d => exact ⟨_, fun _ => rfl⟩

/-- ... and the result is that of the run from the start point on the freshly seeded generator. -/
theorem optimize_result (reseed : Nat → S) {A : Inst S X R} {n : Nat} (hs : A.seed = some n)
    {p : PState S X R} {x : X} (hx : p.x0 = some x) :
    (step reseed A p .optimize).result = some (A.run x (reseed n)).1 := by
  simp only [step, hs, hx]

/-- THE START POINT DEPENDS ONLY ON THE SEED: whatever the generator state at construction. -/
theorem x0_draw_depends_only_on_seed (reseed : Nat → S) (A : Inst S X R) (n : Nat) (hs : A.seed = some n) (p p' : PState S X R) :
    (step reseed A p .construct).x0 = (step reseed A p' .construct).x0 := by
  obtain ⟨x, hx⟩ := construct_x0 reseed hs
  rw [hx p, hx p']

/-- THE RUN DEPENDS ONLY ON THE SEED AND THE START POINT: whatever the generator state when
    optimize() is entered. -/
theorem optimize_depends_only_on_seed (reseed : Nat → S) (A : Inst S X R) (n : Nat) (hs : A.seed = some n)
    (p p' : PState S X R) (hx : p.x0 = p'.x0) :
    (step reseed A p .optimize).result = (step reseed A p' .optimize).result ∨ p.x0 = none := by
  cases hx0 : p.x0 with
  | none => exact Or.inr rfl
  | some x => exact Or.inl ((optimize_result reseed hs hx0).trans (optimize_result reseed hs (hx ▸ hx0)).symm)

/-- Seeded, constructing and then running gives one and the same result after EVERY history of the process - earlier constructions and
    runs of the same instance included - and whatever foreign activity lies in between. -/
theorem seeded_result_fixed (reseed : Nat → S) (A : Inst S X R) (n : Nat) (hs : A.seed = some n) :
    ∃ r, ∀ (p : PState S X R) (pre : List (Ev S)) (mid : List (S → S)),
      (exec reseed A p (pre ++ [.construct] ++ mid.map Ev.foreign ++ [.optimize])).result = some r := by
  obtain ⟨x, hx⟩ := construct_x0 reseed hs
  refine ⟨(A.run x (reseed n)).1, fun p pre mid => ?_⟩
  simp only [exec, List.foldl_append, List.foldl_cons, List.foldl_nil]
  exact optimize_result reseed hs (((exec_foreign_only reseed A mid _).1).trans (hx _))

/-- REPRODUCIBLE INDEPENDENT OF HISTORY: for every process history `pre` (before the instance is
    constructed) and `mid` (between constructing and running it) and every initial generator
    state, the result equals that of constructing and running the instance in a fresh process. -/
theorem run_independent_of_history (reseed : Nat → S) (A : Inst S X R) (n : Nat) (hs : A.seed = some n)
    (pre mid : List (S → S)) (g0 g0' : S) :
    (exec reseed A { g := g0, x0 := none, result := none }
        (pre.map Ev.foreign ++ [.construct] ++ mid.map Ev.foreign ++ [.optimize])).result =
    (exec reseed A { g := g0', x0 := none, result := none } [.construct, .optimize]).result := by
  obtain ⟨r, hr⟩ := seeded_result_fixed reseed A n hs
  exact (hr _ _ mid).trans (hr _ [] []).symm

/-- Both seeding points are needed.  Without re-seeding at optimize() the result depends on what
    ran between construction and run ... -/
theorem depends_on_history_without_reseed_at_optimize_counterexample :
    ∃ (reseed : Nat → Nat) (A : Inst Nat Nat Nat) (f : Nat → Nat),
      A.seed = some 0 ∧
      ((([Ev.construct, .foreign f, .optimize] : List (Ev Nat)).foldl (stepNoReseedAtOptimize reseed A) { g := 5, x0 := none, result := none }).result ≠
       (([Ev.construct, .optimize] : List (Ev Nat)).foldl (stepNoReseedAtOptimize reseed A) { g := 5, x0 := none, result := none }).result) := by
  refine ⟨fun n => n, { seed := some 0, drawX0 := none, givenX0 := 0, run := fun _ g => (g, g + 1) }, fun g => g + 7, rfl, ?_⟩
  decide

/-- ... and without seeding at construction the drawn start point depends on what ran before. -/
theorem depends_on_history_without_reseed_at_construct_counterexample :
    ∃ (reseed : Nat → Nat) (A : Inst Nat Nat Nat) (f : Nat → Nat),
      A.seed = some 0 ∧
      ((([Ev.foreign f, .construct, .optimize] : List (Ev Nat)).foldl (stepNoReseedAtConstruct reseed A) { g := 5, x0 := none, result := none }).result ≠
       (([Ev.construct, .optimize] : List (Ev Nat)).foldl (stepNoReseedAtConstruct reseed A) { g := 5, x0 := none, result := none }).result) := by
  refine ⟨fun n => n, { seed := some 0, drawX0 := some (fun g => (g, g + 1)), givenX0 := 0, run := fun x g => (x, g) }, fun g => g + 7, rfl, ?_⟩
  decide

/-- Without a seed nothing is promised (and nothing holds): the run depends on the history. -/
theorem unseeded_depends_on_history_counterexample :
    ∃ (reseed : Nat → Nat) (A : Inst Nat Nat Nat) (f : Nat → Nat),
      A.seed = none ∧
      (exec reseed A { g := 5, x0 := none, result := none } [.foreign f, .construct, .optimize]).result ≠
      (exec reseed A { g := 5, x0 := none, result := none } [.construct, .optimize]).result := by
  refine ⟨fun n => n, { seed := none, drawX0 := none, givenX0 := 0, run := fun _ g => (g, g + 1) }, fun g => g + 7, rfl, ?_⟩
  decide

end Bads.Rng
