/-
  C01 over ONE WHOLE CALL of `optimize()` (model `Opt`): every target call, every logged point and the returned solution of a whole call -
  initial phase (start point, noise test, filtered Sobol design), loop (any noise mode) and final re-sampling - lie in the hard box; the returned
  solution in ORIGINAL coordinates (`Pipe.inverse` = clamp ∘ ginv) lies in the original hard box.
-/
import BadsProofs.Props.C01
import BadsProofs.Props.C03Opt
import BadsProofs.Props.C05Opt

namespace Bads.Opt

/-- every target call of a whole call is made inside the hard box -/
theorem optimize_calls_in_box (e : Env) (hb : boxOK e.full.pipe.lb e.full.pipe.ub = true) (hn : 1 ≤ e.full.o.nTry)
    (io : InitOrc) (hi : InitOK e io) (hf : Fits e io) (qs : List Full.Orc) (hq : RunOK e io qs) (fo : FinalOrc) :
    ∀ c ∈ (optimize e io qs fo).calls, InBox e.full.pipe.lb e.full.pipe.ub c.1 :=
  fun c hc => (optimize_calls_ok e hb hn io hi hf qs hq fo c hc).1

/-- every logged point (internal coordinates) of a whole call is inside the transformed hard box -/
theorem optimize_logged_points_in_box (e : Env) (hb : boxOK e.full.pipe.lb e.full.pipe.ub = true) (hn : 1 ≤ e.full.o.nTry)
    (io : InitOrc) (hi : InitOK e io) (hf : Fits e io) (qs : List Full.Orc) (hq : RunOK e io qs) (fo : FinalOrc) :
    ∀ p ∈ (optimize e io qs fo).loop.pairs, InBox e.full.pipe.lb e.full.pipe.ub p.1 :=
  (loop_inv e hb hn io hi hf qs hq fo).2.1

/-- the returned point (internal coordinates) is inside the hard box: it is a point that was evaluated -/
theorem optimize_returned_in_box (e : Env) (hb : boxOK e.full.pipe.lb e.full.pipe.ub = true) (hn : 1 ≤ e.full.o.nTry)
    (io : InitOrc) (hi : InitOK e io) (hf : Fits e io) (qs : List Full.Orc) (hq : RunOK e io qs) (fo : FinalOrc) :
    InBox e.full.pipe.lb e.full.pipe.ub (optimize e io qs fo).u :=
  optimize_logged_points_in_box e hb hn io hi hf qs hq fo _ (returned_x_evaluated e hb hn io hi hf qs hq fo)

/-- THE RETURNED SOLUTION `x` of a whole call, in the user's coordinates, is inside the original hard box - for any inverse transform `ginv`
    (affine or logarithmic, exact or rounded): the clamp of `inverse_transform` is what guarantees it. -/
theorem optimize_returned_x_in_orig_box (e : Env) (io : InitOrc) (qs : List Full.Orc) (fo : FinalOrc)
    (hb : boxOK e.full.pipe.origLo e.full.pipe.origHi = true)
    (hl : (e.full.pipe.ginv (optimize e io qs fo).u).length = e.full.pipe.origLo.length) :
    InBox e.full.pipe.origLo e.full.pipe.origHi (Pipe.inverse e.full.pipe (optimize e io qs fo).u) :=
  Pipe.result_in_box e.full.pipe _ hb hl

/-- ... and so is the original-space image of EVERY point at which the target was called -/
theorem optimize_calls_x_in_orig_box (e : Env) (io : InitOrc) (qs : List Full.Orc) (fo : FinalOrc)
    (hb : boxOK e.full.pipe.origLo e.full.pipe.origHi = true)
    (hl : ∀ c ∈ (optimize e io qs fo).calls, (e.full.pipe.ginv c.1).length = e.full.pipe.origLo.length) :
    ∀ c ∈ (optimize e io qs fo).calls, InBox e.full.pipe.origLo e.full.pipe.origHi (Pipe.inverse e.full.pipe c.1) :=
  fun c hc => Pipe.result_in_box e.full.pipe _ hb (hl c hc)

namespace Example
open Bads.Full.Example
/-- non-vacuity: the whole call of C05Opt's example; all nine calls in the box [-4, 4], returned point 1 -/
example : (optimize eX ioX [q1, q2] foX).u = [1] ∧ Pipe.inverse eX.full.pipe (optimize eX ioX [q1, q2] foX).u = [1] ∧
    (optimize eX ioX [q1, q2] foX).calls.length = 9 ∧ boxOK eX.full.pipe.origLo eX.full.pipe.origHi = true := by decide +kernel
end Example

end Bads.Opt
