/-
  End-to-end theorems about `Full.run`, the composed model of a whole run in any noise mode (FullRun.lean):
  for EVERY stream of candidate sets, acquisition rankings, returned values, GP estimates, thresholds, stall
  flags and re-estimates, and every number of iterations,

    * every recorded iterate and the incumbent are (point, value) pairs that were observed together (C19) -
      WITHOUT the hypothesis `it ≤ hist.length` that the component theorem `Noisy.iterStep_pinv` needs: in the
      composed model the recording index is the controller's `poll_iteration`, and `hist.length = poll_iteration`
      is an invariant of the composition (`full_hist_length`);
    * every evaluated point lies in the hard box and satisfies the non-box constraint (C01, C02);
    * the count of target calls follows the evaluations and respects the loop budget (C03).
-/
import BadsModel.FullRun
import BadsProofs.Props.C01
import BadsProofs.Props.C03
import BadsProofs.Props.C19

namespace Bads.Full

/-- what the real code guarantees of the search candidates of one iteration: a positive search mesh on which the box is at least two
    steps wide, and candidates of the box's dimension -/
def OrcOK (e : Env) (q : Orc) : Prop :=
  0 < q.h ∧ wideB q.h e.pipe.lb e.pipe.ub = true ∧ ∀ p ∈ q.searchU, p.length = e.pipe.lb.length

/-- The invariant of the composed loop: the incumbent pair and every recorded iterate were observed together (`Noisy.PInv`); every
    evaluated point is in the hard box, and feasible; the controller's invariants `CInv` and `BInv`; and, while the loop runs, the
    history has one row per poll iteration. -/
def Inv (e : Env) (s : St) : Prop :=
  Noisy.PInv s.ns s.pairs ∧
  (∀ p ∈ s.pairs, InBox e.pipe.lb e.pipe.ub p.1) ∧
  (∀ c, e.pipe.cons = some c → ∀ p ∈ s.pairs, c p.1 = false) ∧
  Ctl.CInv e.o s.ctl.c ∧ Ctl.BInv e.o s.ctl.c ∧
  (s.ctl.c.finished = false → s.ns.hist.length = s.ctl.c.pollIter)

theorem step_ctl (e : Env) (s : St) (q : Orc) : (step e s q).ctl = Ctl.step e.o s.ctl (outOf e s q) := rfl
theorem step_ns (e : Env) (s : St) (q : Orc) : (step e s q).ns = Noisy.iterStep e.tolFun s.ns (iterOf e s q) := rfl
theorem step_pairs (e : Env) (s : St) (q : Orc) : (step e s q).pairs = s.pairs ++ newPairs e s q := rfl

theorem run_eq_whileRun (e : Env) : ∀ (qs : List Orc) (s : St), run e qs s = whileRun (fun s => s.ctl.c.finished) (step e) qs s :=
  eq_whileRun _ _ (run e) (fun _ => rfl) (fun _ _ _ => rfl)

theorem run_induction (e : Env) (P : St → Prop) (qs : List Orc) (s : St) (h : P s)
    (hstep : ∀ q ∈ qs, ∀ s, s.ctl.c.finished = false → P s → P (step e s q)) : P (run e qs s) := by
  rw [run_eq_whileRun]
  exact whileRun_induction _ _ P qs s h hstep

/-- The search step evaluates something only when a search is due: then it is the survivor of the filtered search set that the oracle
    picked, with the oracle's values for it. -/
theorem searchCand_some (e : Env) (s : St) (q : Orc) (cn : Noisy.Cand × Bool) (h : searchCand e s q = some cn) :
    Ctl.doSearch e.o s.ctl.c = true ∧
      ∃ u v, (filterCode (Pipe.filterIn e.pipe true q.h q.searchU (pts s)))[q.searchPick]? = some u ∧ q.searchVal = some v ∧
        cn = (mkCand u v, v.newRow) := by
  unfold searchCand at h
  split at h
  · rename_i hd
    split at h
    · rename_i u v hu hv
      exact ⟨hd, u, v, hu, hv, (Option.some.inj h).symm⟩
    · cases h
  · cases h

theorem searchCand_spec (e : Env) (s : St) (q : Orc) (c : Noisy.Cand) (nr : Bool) (h : searchCand e s q = some (c, nr)) :
    Ctl.doSearch e.o s.ctl.c = true ∧ c.u ∈ filterCode (Pipe.filterIn e.pipe true q.h q.searchU (pts s)) := by
  obtain ⟨hd, u, v, hu, _, hc⟩ := searchCand_some e s q _ h
  exact ⟨hd, by cases hc; exact List.mem_of_getElem? hu⟩

theorem zipCands_eq_map_zip : ∀ (us : List Pt) (vs : List Val), zipCands us vs = (us.zip vs).map fun p => (mkCand p.1 p.2, p.2.newRow)
  | [], _ => rfl
  | _ :: _, [] => rfl
  | u :: us, v :: vs => by rw [zipCands, zipCands_eq_map_zip us vs]; rfl

theorem zipCands_mem (us : List Pt) (vs : List Val) (c : Noisy.Cand × Bool) (h : c ∈ zipCands us vs) :
    ∃ u ∈ us, ∃ v ∈ vs, c = (mkCand u v, v.newRow) := by
  rw [zipCands_eq_map_zip] at h
  obtain ⟨p, hp, rfl⟩ := List.mem_map.mp h
  exact ⟨p.1, (List.of_mem_zip hp).1, p.2, (List.of_mem_zip hp).2, rfl⟩

theorem zipCands_u : ∀ (us : List Pt) (vs : List Val) (c : Noisy.Cand × Bool), c ∈ zipCands us vs → c.1.u ∈ us := by
  intro us vs c h
  obtain ⟨u, hu, v, _, rfl⟩ := zipCands_mem us vs c h
  exact hu

theorem zipCands_length : ∀ (us : List Pt) (vs : List Val), (zipCands us vs).length ≤ us.length := by
  intro us vs
  rw [zipCands_eq_map_zip, List.length_map, List.length_zip]
  exact Nat.min_le_left _ _

/-- What the poll step evaluates: the rows of the filtered poll set at the first positions of the oracle's order - as many as the loop guard
    allows, none when no poll runs -, each paired with the oracle's values for it. -/
theorem pollCands_eq (e : Env) (s : St) (q : Orc) : pollCands e s q =
    zipCands (Pipe.pickAll (filterCode (Pipe.filterIn e.pipe false q.h q.pollU (pts s ++ ((searchCand e s q).map (·.1.u)).toList)))
      (q.pollOrder.take (if pollRuns e s q then Ctl.nEvals e.o (cBeforePoll e s q).fc q.pollOrder.length else 0))) q.pollVals := by
  unfold pollCands
  split <;> rfl

theorem pollCands_of_not (e : Env) (s : St) (q : Orc) (h : pollRuns e s q = false) : pollCands e s q = [] := by
  rw [pollCands_eq, h]; rfl

theorem pollCands_spec (e : Env) (s : St) (q : Orc) (c : Noisy.Cand × Bool) (h : c ∈ pollCands e s q) :
    c.1.u ∈ filterCode (Pipe.filterIn e.pipe false q.h q.pollU (pts s ++ ((searchCand e s q).map (·.1.u)).toList)) :=
  Pipe.pickAll_sub _ _ _ (zipCands_u _ _ c (pollCands_eq e s q ▸ h))

theorem pickAll_length_le (out : List Pt) : ∀ picks : List Nat, (Pipe.pickAll out picks).length ≤ picks.length :=
  Pipe.pickAll_length_le out

theorem pollCands_length (e : Env) (s : St) (q : Orc) :
    (pollCands e s q).length ≤ Ctl.nEvals e.o (cBeforePoll e s q).fc q.pollOrder.length := by
  rw [pollCands_eq]
  refine (zipCands_length _ _).trans ((pickAll_length_le _ _).trans ((List.length_take_le _ _).trans ?_))
  split <;> simp

theorem newPairs_in (e : Env) (hb : boxOK e.pipe.lb e.pipe.ub = true) (s : St) (q : Orc) (hq : OrcOK e q) :
    ∀ p ∈ newPairs e s q, InBox e.pipe.lb e.pipe.ub p.1 ∧ (∀ c, e.pipe.cons = some c → c p.1 = false) := by
  intro p hp
  unfold newPairs at hp
  simp only [List.mem_append, Option.mem_toList, Option.map_eq_some_iff, List.mem_map] at hp
  rcases hp with ⟨⟨c, nr⟩, hs, rfl⟩ | ⟨c, hc, rfl⟩
  · exact Pipe.filterIn_ok e.pipe hb true q.h q.searchU _ [] hq c.u (searchCand_spec e s q c nr hs).2
  · exact Pipe.filterIn_ok e.pipe hb false q.h q.pollU _ [] trivial c.1.u (pollCands_spec e s q c hc)

/-- what the incumbent logic is told of an iteration is what its steps evaluated -/
theorem iterOf_search_join (e : Env) (s : St) (q : Orc) : (iterOf e s q).search.join = (searchCand e s q).map (·.1) := by
  unfold iterOf searchCand
  cases Ctl.doSearch e.o s.ctl.c <;> rfl

theorem iterOf_poll (e : Env) (s : St) (q : Orc) :
    (iterOf e s q).poll = if pollRuns e s q then some ((pollCands e s q).map (·.1)) else none := by
  unfold iterOf; rfl

theorem iterOf_poll_getD (e : Env) (s : St) (q : Orc) : (iterOf e s q).poll.getD [] = (pollCands e s q).map (·.1) := by
  rw [iterOf_poll]
  split
  · rfl
  · rw [pollCands_of_not e s q (Bool.eq_false_of_not_eq_true ‹_›)]; rfl

/-- the pairs the incumbent logic is told about are exactly the new evaluations -/
theorem candsOf_iterOf (e : Env) (s : St) (q : Orc) : Noisy.candsOf (iterOf e s q) = newPairs e s q := by
  rw [Noisy.candsOf, Noisy.sCands_eq, Noisy.pCands_eq, iterOf_search_join, iterOf_poll_getD, newPairs, Option.map_map, List.map_map]
  rfl

theorem reEstimate_length (hist : List Noisy.HRow) (vals : List (Rat × Rat)) :
    (Noisy.reEstimate hist vals).length = hist.length :=
  Noisy.reEstimate_length hist vals

theorem reEvalSwap_hist_length (s : Noisy.St) (it : Nat) (vals : List (Rat × Rat)) (tol : Rat) :
    (Noisy.reEvalSwap s it vals tol).hist.length = s.hist.length := by
  rcases Noisy.reEvalSwap_cases s it vals tol with ⟨_, hs⟩ | ⟨cur, _, hs | ⟨i, r, _, hs⟩⟩
  · rw [hs]; exact Noisy.reEstimate_length _ _
  · rw [hs]; exact Noisy.reEstimate_length _ _
  · rw [hs]; exact Noisy.reEstimate_length _ _

theorem setAt_length {α : Type} (l : List α) (i : Nat) (a : α) :
    (Noisy.setAt l i a).length = if i < l.length then l.length else l.length + 1 := by
  unfold Noisy.setAt
  split <;> simp

theorem iterStep_hist_length (tol : Rat) (s : Noisy.St) (i : Noisy.Iter) :
    (Noisy.iterStep tol s i).hist.length =
      if (i.poll.isSome || i.finished) = true then (if i.it < s.hist.length then s.hist.length else s.hist.length + 1)
      else s.hist.length := by
  have hlen : (Noisy.st3 (Noisy.st1 s i) i).hist.length = s.hist.length := by rw [Noisy.st3_hist, Noisy.st1_hist]
  have hr : (Noisy.recordIter (Noisy.st3 (Noisy.st1 s i) i) i.it).hist.length =
      if i.it < s.hist.length then s.hist.length else s.hist.length + 1 := by
    simp only [Noisy.recordIter, setAt_length, hlen]
  rcases Noisy.iterStep_cases tol s i with ⟨hc, hst⟩ | ⟨hc, hst | ⟨vals, _, hst⟩⟩
  · rw [hst, hc, hlen]; rfl
  · rw [hst, hc, hr]; rfl
  · rw [hst, hc, reEvalSwap_hist_length, hr]; rfl

theorem cAfterSearch_pollIter (o : Ctl.Opts) (c : Ctl.CSt) (so : Ctl.SOut) : (Ctl.cAfterSearch o c so).pollIter = c.pollIter :=
  Ctl.cAfterSearch_pollIter o c so

theorem cReset_pollIter (o : Ctl.Opts) (c : Ctl.CSt) : (Ctl.cReset o c).pollIter = c.pollIter := Ctl.cReset_pollIter o c

theorem cstep_pollIter_eq (o : Ctl.Opts) (c : Ctl.CSt) (co : Ctl.COut) :
    (Ctl.cstep o c co).pollIter =
      if (!(Ctl.cstep o c co).finished && Ctl.doPoll o (Ctl.cAfterSearch o c co.search)) = true then c.pollIter + 1
      else c.pollIter := Ctl.cstep_pollIter_eq o c co

/-- THE RECORDING INDEX IS RIGHT: while the loop runs, the history has exactly `poll_iteration` rows. -/
theorem full_hist_length (e : Env) (s : St) (q : Orc) (h : s.ns.hist.length = s.ctl.c.pollIter)
    (hnf : (step e s q).ctl.c.finished = false) : (step e s q).ns.hist.length = (step e s q).ctl.c.pollIter := by
  have hpoll : (iterOf e s q).poll.isSome = pollRuns e s q := by
    rw [iterOf_poll]; cases pollRuns e s q <;> rfl
  have hpi : (step e s q).ctl.c.pollIter =
      if (!(step e s q).ctl.c.finished && pollRuns e s q) = true then s.ctl.c.pollIter + 1 else s.ctl.c.pollIter :=
    Ctl.cstep_pollIter_eq e.o s.ctl.c _
  -- a row is recorded, at index `poll_iteration`, exactly when a poll ran; that is when `poll_iteration` advances
  rw [step_ns, iterStep_hist_length, hpi, hpoll]
  show (if (pollRuns e s q || (step e s q).ctl.c.finished) = true then
      (if s.ctl.c.pollIter < s.ns.hist.length then s.ns.hist.length else s.ns.hist.length + 1) else s.ns.hist.length) = _
  rw [hnf, h]
  cases pollRuns e s q <;> simp

/-- the recording index `poll_iteration` is within the history, which is what the component theorem asks -/
theorem step_pinv (e : Env) (s : St) (q : Orc) (hp : Noisy.PInv s.ns s.pairs) (hl : s.ns.hist.length = s.ctl.c.pollIter) :
    Noisy.PInv (step e s q).ns (step e s q).pairs := by
  rw [step_ns, step_pairs, ← candsOf_iterOf]
  exact Noisy.iterStep_pinv e.tolFun s.ns s.pairs (iterOf e s q) hp hl.ge

/-- THE RECORD PART OF THE INVARIANT ASKS NOTHING of the environment or the oracle: from any state in which the incumbent and the recorded
    iterates were observed and the history has one row per poll iteration, every run keeps it so. -/
theorem run_record (e : Env) (qs : List Orc) (s : St)
    (h : Noisy.PInv s.ns s.pairs ∧ (s.ctl.c.finished = false → s.ns.hist.length = s.ctl.c.pollIter)) :
    Noisy.PInv (run e qs s).ns (run e qs s).pairs ∧
      ((run e qs s).ctl.c.finished = false → (run e qs s).ns.hist.length = (run e qs s).ctl.c.pollIter) :=
  run_induction e (fun s => Noisy.PInv s.ns s.pairs ∧ (s.ctl.c.finished = false → s.ns.hist.length = s.ctl.c.pollIter)) qs s h
    fun q _ s hnf ⟨hp, hl⟩ => ⟨step_pinv e s q hp (hl hnf), full_hist_length e s q (hl hnf)⟩

theorem step_inv (e : Env) (hb : boxOK e.pipe.lb e.pipe.ub = true) (hn : 1 ≤ e.o.nTry) (s : St) (q : Orc)
    (hq : OrcOK e q) (h : Inv e s) (hnf : s.ctl.c.finished = false) : Inv e (step e s q) := by
  obtain ⟨hp, hbox, hcons, hci, hbi, hlen⟩ := h
  have hl := hlen hnf
  have hnew := newPairs_in e hb s q hq
  exact ⟨step_pinv e s q hp hl, List.forall_mem_append.mpr ⟨hbox, fun p h => (hnew p h).1⟩,
    fun c hc => List.forall_mem_append.mpr ⟨hcons c hc, fun p h => (hnew p h).2 c hc⟩,
    Ctl.cstep_inv e.o s.ctl.c _ hci, Ctl.cstep_binv e.o s.ctl.c _ hbi hnf, full_hist_length e s q hl⟩

/-- EVERY REACHABLE STATE of a run in any noise mode satisfies the invariant. -/
theorem run_inv (e : Env) (hb : boxOK e.pipe.lb e.pipe.ub = true) (hn : 1 ≤ e.o.nTry) :
    ∀ (qs : List Orc) (s : St), (∀ q ∈ qs, OrcOK e q) → Inv e s → Inv e (run e qs s) :=
  fun qs s hq h => run_induction e (Inv e) qs s h fun q hqm s hnf h => step_inv e hb hn s q (hq q hqm) h hnf

/-- THE RECORD OF A RUN (any noise mode), for every oracle stream: the incumbent pair and every recorded iterate
    were observed together, every evaluated point is in the hard box and feasible, the call count is within the
    loop budget. -/
theorem full_run_spec (e : Env) (hb : boxOK e.pipe.lb e.pipe.ub = true) (hn : 1 ≤ e.o.nTry)
    (qs : List Orc) (hq : ∀ q ∈ qs, OrcOK e q) (s0 : St) (h0 : Inv e s0) :
    let r := run e qs s0
    (r.ns.u, r.ns.yval) ∈ r.pairs ∧ (∀ row ∈ r.ns.hist, (row.u, row.yval) ∈ r.pairs) ∧
    (∀ p ∈ r.pairs, InBox e.pipe.lb e.pipe.ub p.1) ∧ (∀ c, e.pipe.cons = some c → ∀ p ∈ r.pairs, c p.1 = false) ∧
    r.ctl.c.fc ≤ e.o.budget := by
  intro r
  obtain ⟨⟨_, hinc, hrows⟩, hbox, hcons, _, hbud, _⟩ := run_inv e hb hn qs s0 hq h0
  exact ⟨hinc, hrows, hbox, hcons, hbud.1⟩

theorem cReset_fc (o : Ctl.Opts) (c : Ctl.CSt) : (Ctl.cReset o c).fc = c.fc := Ctl.cReset_fc o c

theorem cstep_fc (o : Ctl.Opts) (c : Ctl.CSt) (co : Ctl.COut) :
    (Ctl.cstep o c co).fc = (Ctl.cAfterSearch o c co.search).fc +
      (if Ctl.doPoll o (Ctl.cAfterSearch o c co.search) = true
       then Ctl.nEvals o (Ctl.cAfterSearch o c co.search).fc co.nz else 0) := Ctl.cstep_fc o c co

theorem afterSearch_fc (e : Env) (s : St) (q : Orc) :
    (Ctl.cAfterSearch e.o s.ctl.c (searchOut e s q)).fc = s.ctl.c.fc + ((searchCand e s q).map (fun c => (c.1.u, c.1.y))).toList.length := by
  rw [Ctl.cAfterSearch_fc]
  unfold searchOut
  cases hs : searchCand e s q with
  | none => exact congrArg _ (ite_self 0)
  | some cn => exact congrArg _ (if_pos ((Ctl.doSearch_iff _ _).mp (searchCand_some e s q cn hs).1))

/-- the target is called once per evaluated pair -/
theorem step_fc (e : Env) (s : St) (q : Orc) :
    (step e s q).ctl.c.fc + s.pairs.length = s.ctl.c.fc + (step e s q).pairs.length := by
  have h : (step e s q).ctl.c.fc = s.ctl.c.fc + ((searchCand e s q).map _).toList.length + (pollCands e s q).length :=
    Ctl.step_fc_add e.o s.ctl (outOf e s q) q.pollOrder.length _ _ (afterSearch_fc e s q) (List.length_map _)
      (pollCands_length e s q) fun h => congrArg _ (pollCands_of_not e s q h)
  rw [step_pairs, newPairs, List.length_append, List.length_append, List.length_map]
  omega

theorem run_fc (e : Env) : ∀ (qs : List Orc) (s : St),
    (run e qs s).ctl.c.fc + s.pairs.length = s.ctl.c.fc + (run e qs s).pairs.length :=
  fun qs s => run_induction e (fun r => r.ctl.c.fc + s.pairs.length = s.ctl.c.fc + r.pairs.length) qs s rfl
    fun q _ r _ h => by have := step_fc e r q; omega

/-- TERMINATION of the composed model (any noise mode): whatever the oracle answers, after more than `rank`
    iterations the controller has finished. -/
theorem full_terminates (e : Env) (hn : 1 ≤ e.o.nTry) :
    ∀ (qs : List Orc) (s : St), Ctl.CInv e.o s.ctl.c → Ctl.rank e.o s.ctl.c < qs.length →
      (run e qs s).ctl.c.finished = true := by
  intro qs s hinv hr
  rw [run_eq_whileRun]
  exact whileRun_finished (fun s : St => s.ctl.c.finished) (step e) (fun s => Ctl.CInv e.o s.ctl.c) (fun s => Ctl.rank e.o s.ctl.c)
    (fun s q hi _ => Ctl.step_rank e.o s.ctl (outOf e s q) hi)
    qs s hinv hr

/-! ### non-vacuity: a concrete noisy run meets the hypotheses, and the composed model computes it -/
namespace Example
def o1 : Ctl.Opts := { D := 1, nTry := 2, budget := 12, maxIter := 5, skip := true, cap := 0, sgm := 2, sgn := 10, locked := true,
                       accel := true, accelSteps := 3, stallIters := 4, tolExp := -20, expand := 0, incr := 1 }
def e1 : Env := { pipe := { lb := [.fin (-4)], ub := [.fin 4], origLo := [.fin (-4)], origHi := [.fin 4], tolMesh := 1/1024, cons := none, ginv := id },
                  o := o1, tolFun := 1/1000 }
def s0 : St := { pairs := [([0], 1), ([2], 3/2), ([-2], 9)], ns := { u := [0], uBest := [0], yval := 1, fval := 1, fsd := 1/8, hist := [] },
                 ctl := Ctl.init o1 4 3 0 }
def v1 : Val := { y := 1/4, f := 1/2, sd := 1/8, newRow := true }
def v2 : Val := { y := 4, f := 7/2, sd := 1/4, newRow := true }
def v3 : Val := { y := 1/8, f := 1/4, sd := 1/8, newRow := true }
def v4 : Val := { y := 0, f := 1/8, sd := 1/8, newRow := true }
def q1 : Orc := { h := 1/4, searchU := [[1/2], [3]], searchPick := 0, searchVal := some v1,
                  pollU := [[1], [-1]], pollOrder := [0, 1], pollVals := [v2, v3],
                  thr := 1/2, stallMesh := false, stallStop := false, reVals := none }
def q2 : Orc := { h := 1/4, searchU := [[1], [3/4]], searchPick := 1, searchVal := some v4,
                  pollU := [[3/2], [1/2]], pollOrder := [1, 0], pollVals := [v2, v3],
                  thr := 1/8, stallMesh := false, stallStop := false, reVals := some [(1/4, 1/16)] }

example : Inv e1 s0 ∧ OrcOK e1 q1 ∧ OrcOK e1 q2 ∧ boxOK e1.pipe.lb e1.pipe.ub = true ∧ 1 ≤ e1.o.nTry := by
  refine ⟨⟨⟨rfl, by decide +kernel, by intro r hr; cases hr⟩, by decide +kernel, ?_, ?_, ?_, ?_⟩, ?_, ?_, by decide +kernel, by decide⟩
  · intro c hc; cases hc
  · unfold Ctl.CInv; decide +kernel
  · unfold Ctl.BInv; decide +kernel
  · intro _; rfl
  · unfold OrcOK; decide +kernel
  · unfold OrcOK; decide +kernel

example : (run e1 [q1, q2] s0).ns.hist.length = (run e1 [q1, q2] s0).ctl.c.pollIter ∧
    (run e1 [q1, q2] s0).pairs.length = 6 ∧ (run e1 [q1, q2] s0).ctl.c.fc = 7 := by decide +kernel
end Example

end Bads.Full
