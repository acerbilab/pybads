/-
  C13 - Mesh size doubles after a successful poll (up to a cap), shrinks after a failure.

  Theorems about `Ctl.mstep`, the mesh part of the loop model: `mesh_size = 2 ^ msi`,
  `search_mesh_size = 2 ^ ssi`.
-/
import BadsProofs.Lemmas.CtlLemmas
import BadsProofs.Lemmas.BestLemmas
import Generated.Defaults
import Mathlib.Tactic.NormNum

namespace Bads.Ctl

/-- Hypotheses on the option files (re-proved from the regenerated defaults on every run):
    multiplier 2, cap 0 (mesh size at most 1), start at 1, search-grid rule `2·msi - number`,
    no search-driven mesh expansion, default (non-StoBADS) success rule. -/
def HypC13 (d : Generated.Defaults) : Prop :=
  d.poll_mesh_multiplier = 2 ∧ d.max_poll_grid_number = 0 ∧ d.init_mesh_size_integer = 0 ∧
  d.search_grid_multiplier = 2 ∧ d.max_poll_grid_number ≤ d.search_grid_number ∧
  d.search_mesh_expand = 0 ∧ d.stobads = false

theorem defaults_satisfy_HypC13 : ∀ d ∈ Generated.defaults, HypC13 d := by
  unfold HypC13; decide +kernel

/-- The running-best loop, characterised. -/
theorem pollGood_iff (thr : Rat) : ∀ (zs : List Rat) (best : Rat) (good : Bool),
    pollGood thr zs best good = true ↔
      (∃ z ∈ zs, z > best ∧ z > thr) ∨ (good = true ∧ ∀ z ∈ zs, z ≤ best) := by
  intro zs best good
  -- either nothing beats `best` and the flag is kept, or the flag is that of the maximum `x > best`
  rcases pollGood_cases thr zs best good with ⟨hg, hle⟩ | ⟨x, hx, hg, hlt, hmax⟩
  · rw [hg]
    constructor
    · exact fun h => Or.inr ⟨h, hle⟩
    · rintro (⟨z, hz, h1, _⟩ | ⟨h, _⟩)
      · exact absurd (hle z hz) (not_le.mpr h1)
      · exact h
  · rw [hg, decide_eq_true_eq]
    constructor
    · exact fun h => Or.inl ⟨x, hx, hlt, h⟩
    · rintro (⟨z, hz, _, h2⟩ | ⟨_, h⟩)
      · exact lt_of_lt_of_le h2 (hmax z hz)
      · exact absurd (h x hx) (not_le.mpr hlt)

/-- A poll is judged successful exactly when some evaluated point improved by more than the
    threshold (for a non-negative threshold, as `max(tol_improvement·mesh^1.5, tol_fun)` is). -/
theorem running_best_good_iff (thr : Rat) (hthr : 0 ≤ thr) (zs : List Rat) :
    pollGood thr zs 0 false = true ↔ ∃ z ∈ zs, z > thr := by
  rw [pollGood_iff]
  constructor
  · rintro (⟨z, hz, _, h⟩ | ⟨⟨⟩, _⟩)
    exact ⟨z, hz, h⟩
  · rintro ⟨z, hz, h⟩
    exact Or.inl ⟨z, hz, lt_of_le_of_lt hthr h, h⟩

/-- Which improvements the poll actually saw. -/
def seenZs (o : Opts) (s : St) (out : Out) : List Rat :=
  out.zs.take (nEvals o (cReset o (cAfterSearch o s.c out.search)).fc out.zs.length)

def pollWasGood (o : Opts) (s : St) (out : Out) : Bool := pollGood out.thr (seenZs o s out) 0 false

theorem meshLoopStart_msi (o : Opts) (m : MSt) : (meshLoopStart o m).msi = m.msi := by
  unfold meshLoopStart; split <;> rfl

theorem meshSkip_msi (o : Opts) (m : MSt) (hexp : o.expand = 0) : (meshSkip o m).msi = m.msi := by
  rw [meshSkip, hexp]; rfl

theorem pollMesh_msi (o : Opts) (m : MSt) (it : Nat) (good stall : Bool) :
    (pollMesh o m it good stall).msi =
      if good then min (m.msi + 1) o.cap
      else if o.accel && decide (it > o.accelSteps) && stall then m.msi - 2 else m.msi - 1 := by
  simp only [pollMesh, apply_ite MSt.msi, Int.sub_sub]; rfl

/-- the mesh state with which the poll of this iteration (if any) is entered: after the loop start, and a skipped poll or the end of a
    round of searches -/
def mBeforePoll (o : Opts) (s : St) (out : Out) : MSt :=
  if skipPoll o (cAfterSearch o s.c out.search) then meshSkip o (meshLoopStart o s.m)
  else if atEnd o (cAfterSearch o s.c out.search) then { meshLoopStart o s.m with spree := 0 } else meshLoopStart o s.m

theorem mstep_eq (o : Opts) (s : St) (out : Out) :
    mstep o s out =
      if ranPoll o s out then pollMesh o (mBeforePoll o s out) s.c.pollIter (pollWasGood o s out) out.stallMesh
      else mBeforePoll o s out := rfl

theorem mBeforePoll_msi (o : Opts) (s : St) (out : Out) (hexp : o.expand = 0) : (mBeforePoll o s out).msi = s.m.msi := by
  simp only [mBeforePoll, apply_ite MSt.msi, meshSkip_msi o _ hexp, meshLoopStart_msi, ite_self]

/-- THE MESH LAW of one iteration: doubled (up to the cap) after a poll with a sufficient improvement; halved - quartered exactly when
    acceleration is on, more than `accelerate_mesh_steps` polls have passed and the run stalls - after any other poll; unchanged when
    the iteration ran no poll. -/
theorem mstep_msi (o : Opts) (s : St) (out : Out) (hexp : o.expand = 0) :
    (mstep o s out).msi =
      if ranPoll o s out then
        (if pollWasGood o s out then min (s.m.msi + 1) o.cap
         else if o.accel && decide (s.c.pollIter > o.accelSteps) && out.stallMesh then s.m.msi - 2 else s.m.msi - 1)
      else s.m.msi := by
  rw [mstep_eq, apply_ite MSt.msi, pollMesh_msi, mBeforePoll_msi o s out hexp]

/-- After a successful poll the mesh exponent goes up by one, unless at the cap. -/
theorem poll_success_doubles (o : Opts) (s : St) (out : Out) (hexp : o.expand = 0)
    (hp : ranPoll o s out = true) (hg : pollWasGood o s out = true) :
    (mstep o s out).msi = min (s.m.msi + 1) o.cap := by
  rw [mstep_msi o s out hexp, hp, hg]; rfl

/-- After any other poll it goes down by one - or by two exactly when mesh acceleration is on,
    more than `accelerate_mesh_steps` poll iterations have passed and the run is stalling. -/
theorem poll_failure_halves_or_quarters (o : Opts) (s : St) (out : Out) (hexp : o.expand = 0)
    (hp : ranPoll o s out = true) (hg : pollWasGood o s out = false) :
    (mstep o s out).msi =
      (if o.accel && decide (s.c.pollIter > o.accelSteps) && out.stallMesh then s.m.msi - 2 else s.m.msi - 1) := by
  rw [mstep_msi o s out hexp, hp, hg]; rfl

/-- Outside polls the mesh size never changes. -/
theorem msi_changes_only_in_poll (o : Opts) (s : St) (out : Out) (hexp : o.expand = 0)
    (hp : ranPoll o s out = false) : (mstep o s out).msi = s.m.msi := by
  rw [mstep_msi o s out hexp, hp]; rfl

/-- Mesh invariant: exponent at most the cap; search mesh never above the poll mesh. -/
def MInv (o : Opts) (m : MSt) : Prop := m.msi ≤ o.cap ∧ m.ssi ≤ m.msi

/-- The search mesh rule `min(.., msi·sgm - sgn)` stays below the poll mesh because `msi ≤ cap ≤ sgn` (with `sgm = 2`); every stage of
    `mstep` that sets the search mesh keeps the invariant for that reason. -/
theorem minv_of_le_cap (o : Opts) (hs : o.sgm = 2) (hc : o.cap ≤ o.sgn) (ssi : Int) {msi : Int} (h : msi ≤ o.cap) :
    msi ≤ o.cap ∧ min ssi (msi * o.sgm - o.sgn) ≤ msi :=
  ⟨h, min_le_of_right_le (by rw [hs]; omega)⟩

theorem init_minv (o : Opts) (fc0 nRec0 : Nat) (msi0 : Int) (h0 : msi0 ≤ o.cap)
    (hs : o.sgm = 2) (hc : o.cap ≤ o.sgn) : MInv o (init o fc0 nRec0 msi0).m :=
  minv_of_le_cap o hs hc _ h0

theorem meshLoopStart_minv (o : Opts) (m : MSt) (hs : o.sgm = 2) (hc : o.cap ≤ o.sgn) (h : MInv o m) : MInv o (meshLoopStart o m) := by
  unfold meshLoopStart
  split
  · exact minv_of_le_cap o hs hc _ h.1
  · exact h

theorem meshSkip_minv (o : Opts) (m : MSt) (h : MInv o m) : MInv o (meshSkip o m) := by
  unfold MInv meshSkip at *
  simp only []
  split
  · rename_i he
    rw [Bool.and_eq_true, decide_eq_true_eq] at he
    exact ⟨min_le_right _ _, le_min (h.2.trans (Int.le_add_of_nonneg_right he.2.le)) (h.2.trans h.1)⟩
  · exact h

theorem pollMesh_minv (o : Opts) (m : MSt) (it : Nat) (good stall : Bool) (hs : o.sgm = 2) (hc : o.cap ≤ o.sgn) (h : MInv o m) :
    MInv o (pollMesh o m it good stall) := by
  unfold MInv pollMesh at *
  split
  · exact ⟨min_le_right _ _, le_min (Int.le_add_one h.2) (h.2.trans h.1)⟩
  · dsimp only
    exact minv_of_le_cap o hs hc _ (by omega)

theorem mstep_minv (o : Opts) (s : St) (out : Out) (hs : o.sgm = 2) (hc : o.cap ≤ o.sgn)
    (h : MInv o s.m) : MInv o (mstep o s out) := by
  have h0 := meshLoopStart_minv o s.m hs hc h
  have h1 : MInv o (mBeforePoll o s out) :=
    iteInduction (fun _ => meshSkip_minv o _ h0) fun _ => iteInduction (fun _ => h0) fun _ => h0
  rw [mstep_eq]
  split
  · exact pollMesh_minv o _ _ _ _ hs hc h1
  · exact h1

/-- In every reachable state: `msi ≤ cap` and `ssi ≤ msi`. -/
theorem msi_le_cap_and_ssi_le_msi (o : Opts) (hs : o.sgm = 2) (hc : o.cap ≤ o.sgn) :
    ∀ (n : Nat) (oracle : Nat → Out) (s : St), MInv o s.m → MInv o (run o oracle n s).m :=
  -- `dsimp only [step]` first: left to itself the unifier compares `(step o s out).m` with `mstep o s out` by unfolding `mstep`
  run_induction o (fun s => MInv o s.m) (fun s out _ h => by dsimp only [step]; exact mstep_minv o s out hs hc h)

/-- With the default cap 0 the mesh size `2^msi` is a power of two not exceeding 1, and the
    search mesh `2^ssi` does not exceed it. -/
theorem mesh_le_one (msi : Int) (h : msi ≤ 0) : (2 : Rat) ^ msi ≤ 1 :=
  zpow_le_one_of_nonpos₀ (by norm_num) h

theorem search_mesh_le_mesh (ssi msi : Int) (h : ssi ≤ msi) : (2 : Rat) ^ ssi ≤ (2 : Rat) ^ msi :=
  zpow_le_zpow_right₀ (by norm_num) h

/-- what the mesh theorems need of options set to the shipped defaults: the hypotheses of the invariant, and a cap of 0 -/
theorem defaults_mesh_hyps (d : Generated.Defaults) (hd : d ∈ Generated.defaults) (o : Opts)
    (hcap : o.cap = d.max_poll_grid_number) (hsgm : o.sgm = d.search_grid_multiplier) (hsgn : o.sgn = d.search_grid_number) :
    o.sgm = 2 ∧ o.cap ≤ o.sgn ∧ d.init_mesh_size_integer ≤ o.cap ∧ o.cap = 0 := by
  obtain ⟨_, h2, h3, h4, h5, _, _⟩ := defaults_satisfy_HypC13 d hd
  rw [hcap, hsgm, hsgn, h2, h3]
  exact ⟨h4, h2 ▸ h5, Int.le_refl _, rfl⟩

/-- EVERY REACHABLE STATE OF A RUN WITH THE SHIPPED DEFAULTS (for every dimension in the generated table, every
    oracle stream, every number of iterations): the mesh size never exceeds 1 and the search mesh is never
    coarser than the poll mesh.  The option values enter only through `HypC13`, re-proved from the regenerated
    defaults on every run. -/
theorem default_run_mesh_bounded (d : Generated.Defaults) (hd : d ∈ Generated.defaults) (o : Opts)
    (hcap : o.cap = d.max_poll_grid_number) (hsgm : o.sgm = d.search_grid_multiplier)
    (hsgn : o.sgn = d.search_grid_number) (fc0 nRec0 n : Nat) (oracle : Nat → Out) :
    (2 : Rat) ^ (run o oracle n (init o fc0 nRec0 d.init_mesh_size_integer)).m.msi ≤ 1 ∧
    (2 : Rat) ^ (run o oracle n (init o fc0 nRec0 d.init_mesh_size_integer)).m.ssi
      ≤ (2 : Rat) ^ (run o oracle n (init o fc0 nRec0 d.init_mesh_size_integer)).m.msi := by
  obtain ⟨hs, hc, h0, hcap0⟩ := defaults_mesh_hyps d hd o hcap hsgm hsgn
  obtain ⟨ha, hb⟩ := msi_le_cap_and_ssi_le_msi o hs hc n oracle _ (init_minv o fc0 nRec0 _ h0 hs hc)
  exact ⟨mesh_le_one _ (hcap0 ▸ ha), search_mesh_le_mesh _ _ hb⟩

/-- A run reported as stopped by the mesh tolerance has mesh size below `tol_mesh`. -/
theorem tolmesh_msg_sound (o : Opts) (s : St) (out : Out) (h : (step o s out).c.msg = .tolMesh) :
    (2 : Rat) ^ (step o s out).m.msi < (2 : Rat) ^ o.tolExp := by
  have hm : msgSound o (step o s out).c (decide ((mstep o s out).msi < o.tolExp)) out.stallStop = true :=
    cstep_msg_sound o s.c (coutOf o s out)
  unfold msgSound at hm
  rw [h] at hm
  exact zpow_lt_zpow_right₀ (by norm_num) (of_decide_eq_true hm)

/-- WHY THE INTERNAL TOLERANCE IS ROUNDED UP: the run stops when the mesh `2^m` falls below the internal tolerance `2^k`, where `k` is the
    smallest exponent with `tol_mesh ≤ 2^k` (`k = ceil(log2 tol_mesh)`, i.e. `2^(k-1) < tol_mesh`).  Then the mesh at that stop is below the
    USER's `tol_mesh` as well - also when `tol_mesh` is itself a power of two (`tol_mesh = 2^k`).  (With `k + 1` in place of `k`, as
    `floor + 1` gives for exact powers of two, the hypothesis `2^(k-1) < tol_mesh` fails and the run can stop ON the tolerance.) -/
theorem below_internal_tol_below_user_tol (tol : Rat) (k m : Int) (h1 : (2 : Rat) ^ (k - 1) < tol) (h2 : m < k) :
    (2 : Rat) ^ m < tol :=
  lt_of_le_of_lt (search_mesh_le_mesh _ _ (Int.le_sub_one_of_lt h2)) h1

/-- ... and the rounding loses nothing: a mesh that is not yet below the internal tolerance is not below the user's either. -/
theorem not_below_internal_tol_not_below_user_tol (tol : Rat) (k m : Int) (h1 : tol ≤ (2 : Rat) ^ k) (h2 : k ≤ m) :
    tol ≤ (2 : Rat) ^ m :=
  le_trans h1 (search_mesh_le_mesh _ _ h2)

/-- two mesh states that differ at most in the overflow counter -/
def SameMesh (m m' : MSt) : Prop := m.msi = m'.msi ∧ m.ssi = m'.ssi ∧ m.spree = m'.spree

theorem meshLoopStart_same (o : Opts) (m m' : MSt) (h : SameMesh m m') : SameMesh (meshLoopStart o m) (meshLoopStart o m') := by
  obtain ⟨h1, h2, h3⟩ := h
  unfold meshLoopStart
  split
  · exact ⟨h1, by rw [h1], h3⟩
  · exact ⟨h1, h2, h3⟩

theorem meshSkip_same (o : Opts) (m m' : MSt) (h : SameMesh m m') : SameMesh (meshSkip o m) (meshSkip o m') := by
  obtain ⟨h1, h2, h3⟩ := h
  unfold meshSkip
  refine ⟨?_, h2, by simp [h3]⟩
  simp only [h1, h3]

theorem pollMesh_same (o : Opts) (m m' : MSt) (it : Nat) (good stall : Bool) (h : SameMesh m m') :
    SameMesh (pollMesh o m it good stall) (pollMesh o m' it good stall) := by
  obtain ⟨h1, h2, h3⟩ := h
  -- field by field: each field of the result is an `if` over fields of `m` other than `overflows`
  simp only [SameMesh, pollMesh, apply_ite MSt.msi, apply_ite MSt.ssi, apply_ite MSt.spree, h1, h2, h3, and_self]

/-- Two mesh states that differ at most in the overflow counter are taken to two such states by an iteration: whether a poll runs and
    how it is judged depends on the counters only, and every stage of `mstep` keeps `SameMesh`. -/
theorem mstep_same (o : Opts) (c : CSt) (m m' : MSt) (out : Out) (h : SameMesh m m') :
    SameMesh (mstep o ⟨c, m⟩ out) (mstep o ⟨c, m'⟩ out) := by
  have h0 := meshLoopStart_same o m m' h
  have h1 : SameMesh (mBeforePoll o ⟨c, m⟩ out) (mBeforePoll o ⟨c, m'⟩ out) := by
    unfold mBeforePoll
    split
    · exact meshSkip_same o _ _ h0
    · split
      · exact ⟨h0.1, h0.2.1, rfl⟩
      · exact h0
  -- whether a poll runs is read off the counters, which the two states share
  rw [mstep_eq, mstep_eq]
  unfold ranPoll
  split
  · exact pollMesh_same o _ _ _ _ _ h1
  · exact h1

/-- THE OVERFLOW COUNTER IS BOOKKEEPING ONLY: how often the mesh has already tried to grow beyond its cap (the count behind the
    `bads:meshOverflow` warning) has no influence on the mesh exponents - a successful poll below the cap doubles the mesh whether or not
    the warning was issued before. -/
theorem mesh_ignores_overflow_count (o : Opts) (s : St) (out : Out) (k : Nat) :
    (mstep o { s with m := { s.m with overflows := k } } out).msi = (mstep o s out).msi ∧
    (mstep o { s with m := { s.m with overflows := k } } out).ssi = (mstep o s out).ssi :=
  have key := mstep_same o s.c { s.m with overflows := k } s.m out ⟨rfl, rfl, rfl⟩
  ⟨key.1, key.2.1⟩

/-! Non-vacuity: a poll with one sufficient improvement among three evaluations. -/
example : pollGood (1/10) [0, 1/4, 1/8] 0 false = true ∧ pollGood (1/10) [1/20, -1] 0 false = false := by
  constructor <;> decide +kernel

end Bads.Ctl
