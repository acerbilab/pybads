/-
  C16 - A numerical failure of a GP hyper-parameter fit never aborts the optimisation.

  Whether a fit raises LinAlgError, and which rows a retry drops, are oracle inputs.
-/
import BadsModel.GPSet
import BadsProofs.Props.C01
import BadsProofs.Props.C03
import BadsProofs.Props.C04

namespace Bads.GP

theorem agree_shrink (sh : Shapes) (d : Nat) (h : sh.agree = true) :
    ({ nX := sh.nX - d, nY := sh.nY - d, nS2 := sh.nS2.map (· - d) } : Shapes).agree = true := by
  obtain ⟨nX, nY, nS2⟩ := sh
  simp only [Shapes.agree, Bool.and_eq_true, beq_iff_eq] at h ⊢
  obtain ⟨rfl, h2⟩ := h
  refine ⟨rfl, ?_⟩
  cases nS2 with
  | none => rfl
  | some k => exact beq_iff_eq.mpr (congrArg (· - d) (beq_iff_eq.mp h2))

/-- SHAPES AGREE AT EVERY ATTEMPT: X, Y and the noise vector handed to each retry have the same
    number of rows (the rows a retry drops are dropped from all three). -/
theorem robustFit_shapes_agree (nTry ra : Nat) : ∀ (outs : List Bool) (sh : Shapes) (drops : List Nat) (i : Nat),
    sh.agree = true → ∀ s ∈ (robustFit nTry ra sh outs drops i).1, s.agree = true := by
  intro outs
  induction outs with
  | nil => exact fun _ _ _ _ s hs => by cases hs
  | cons fail outs ih =>
    intro sh drops i h s hs
    rw [robustFit] at hs
    by_cases hi : i ≥ nTry
    · rw [if_pos hi] at hs; cases hs
    · rw [if_neg hi] at hs
      cases fail with
      | false => exact List.mem_singleton.mp hs ▸ h
      | true =>
        rcases List.mem_cons.mp hs with rfl | hs
        · exact h
        · exact ih _ drops.tail (i + 1) (agree_shrink sh _ h) s hs

/-- DEFINED: after `k` consecutive failures followed by a success - with fewer than `nTry`
    attempts in total - the routine returns successfully after exactly `k + 1` attempts. -/
theorem robustFit_defined (nTry ra : Nat) : ∀ (k : Nat) (rest : List Bool) (sh : Shapes) (drops : List Nat) (i : Nat),
    i + k < nTry →
    (robustFit nTry ra sh (List.replicate k true ++ false :: rest) drops i).2 = true ∧
    (robustFit nTry ra sh (List.replicate k true ++ false :: rest) drops i).1.length = k + 1 := by
  intro k rest
  induction k with
  | zero =>
    intro sh drops i h
    rw [List.replicate_zero, List.nil_append, robustFit, if_neg (by omega)]
    exact ⟨rfl, rfl⟩
  | succ k ih =>
    intro sh drops i h
    rw [List.replicate_succ, List.cons_append, robustFit, if_neg (by omega)]
    -- whatever shapes the retry is handed
    have ih := fun sh' => ih sh' drops.tail (i + 1) (by omega)
    exact ⟨(ih _).1, congrArg (· + 1) (ih _).2⟩

/-- INITIAL TRAINING: `k` consecutive failures mean `k + 1` attempts on identical data, then success. -/
theorem initFit_terminates (sh : Shapes) : ∀ (k : Nat) (rest : List Bool),
    initFit sh (List.replicate k true ++ false :: rest) = (List.replicate (k + 1) sh, true) := by
  intro k rest
  induction k with
  | zero => rfl
  | succ k ih =>
    rw [List.replicate_succ, List.cons_append, initFit, if_neg (by decide), ih]
    rfl

/-- POSTERIOR UPDATE FALLBACK: a failing update restores the previous hyper-parameters and flags
    the failure; the caller continues. -/
theorem updateFallback_restores (oldH newH : List Rat) :
    updateFallback oldH newH true = (oldH, -2) ∧ updateFallback oldH newH false = (newH, 0) := ⟨rfl, rfl⟩

/-- ALL OTHER GUARANTEES SURVIVE FIT FAULTS: in the models of C01, C03 and C04 every GP result
    (fit success or failure, predictions, hyper-parameters) is an oracle input that is universally
    quantified, so those theorems hold verbatim on runs with fit failures.  Re-exported here. -/
theorem guarantees_survive_faults :
    (∀ (e : Pipe.Env), boxOK e.lb e.ub = true → ∀ (steps : List Pipe.Step) (evals : List Pt),
        (∀ s ∈ steps, Pipe.StepOK e s) → (∀ u ∈ evals, InBox e.lb e.ub u) → ∀ u ∈ Pipe.run e evals steps, InBox e.lb e.ub u) ∧
    (∀ (o : Ctl.Opts), 1 ≤ o.nTry → ∀ (n : Nat) (oracle : Nat → Ctl.Out) (s : Ctl.St), Ctl.BInv o s.c → (Ctl.run o oracle n s).c.fc ≤ o.budget) ∧
    (∀ (evs : List Inc.Ev) (s : Inc.St) (evals : List (Pt × Rat)), Inc.Inv s evals → Inc.Inv (Inc.run s evs) (evals ++ Inc.allEvals evs)) :=
  ⟨Pipe.pipeline_calls_in_box, Ctl.budget_inv, Inc.inc_reachable⟩

/-! Non-vacuity: two failures in a row in a noisy mode (a noise vector accompanies the training set). -/
example :
    robustFit 10 1 { nX := 20, nY := 20, nS2 := some 20 } [true, true, false] [0, 3, 0] 0 =
      ([{ nX := 20, nY := 20, nS2 := some 20 }, { nX := 20, nY := 20, nS2 := some 20 }, { nX := 17, nY := 17, nS2 := some 17 }], true) := by
  decide

end Bads.GP
