/-
  C18 over ONE WHOLE CALL of `optimize()` (model `Opt` / `Full`): in every iteration of the loop the search step evaluates AT MOST ONE point,
  that point is the survivor of the filtered search set the acquisition ranking picked (`searchPick`, the oracle's argmin - `es_returns_argmin` of
  C18 says what the real strategy hands over), it is evaluated once (one logged pair), and an iteration that runs no search evaluates nothing
  in a search step.  The picked point lies in the hard box and is feasible (`optimize_calls_ok`).
-/
import BadsProofs.Props.C19Run
import BadsProofs.Props.C13Opt

namespace Bads.Opt

/-- the points the search step of iteration `(s, q)` evaluates -/
def searchEvals (e : Full.Env) (s : Full.St) (q : Full.Orc) : List Pt := ((Full.searchCand e s q).map (·.1.u)).toList

/-- the filtered search set of iteration `(s, q)`: projected on the search box, snapped, de-duplicated, feasible -/
def searchSet (e : Full.Env) (s : Full.St) (q : Full.Orc) : List Pt := filterCode (Pipe.filterIn e.pipe true q.h q.searchU (Full.pts s))

/-- ONCE AT MOST -/
theorem search_evals_at_most_one (e : Full.Env) (s : Full.St) (q : Full.Orc) : (searchEvals e s q).length ≤ 1 :=
  Option.length_toList_le

/-- THE PICKED ONE: the evaluated point is the `searchPick`-th survivor of the filtered search set, and the search was due -/
theorem search_eval_is_pick (e : Full.Env) (s : Full.St) (q : Full.Orc) (u : Pt) (h : u ∈ searchEvals e s q) :
    (searchSet e s q)[q.searchPick]? = some u ∧ Ctl.doSearch e.o s.ctl.c = true := by
  obtain ⟨cn, hc, rfl⟩ := Option.map_eq_some_iff.mp (Option.mem_toList.mp h)
  obtain ⟨hd, u, v, hu, _, rfl⟩ := Full.searchCand_some e s q cn hc
  exact ⟨hu, hd⟩

/-- ... hence a member of the filtered search set -/
theorem search_eval_in_search_set (e : Full.Env) (s : Full.St) (q : Full.Orc) (u : Pt) (h : u ∈ searchEvals e s q) : u ∈ searchSet e s q :=
  List.mem_of_getElem? (search_eval_is_pick e s q u h).1

/-- no search due, or nothing proposed / nothing survives the filter: the search step evaluates nothing -/
theorem no_search_no_eval (e : Full.Env) (s : Full.St) (q : Full.Orc)
    (h : Ctl.doSearch e.o s.ctl.c = false ∨ (searchSet e s q)[q.searchPick]? = none) : searchEvals e s q = [] := by
  refine List.eq_nil_iff_forall_not_mem.mpr fun u hu => ?_
  obtain ⟨h1, h2⟩ := search_eval_is_pick e s q u hu
  rcases h with h | h
  · rw [h] at h2; cases h2
  · rw [h] at h1; cases h1

/-- LOGGED ONCE: the pairs an iteration logs are the search evaluation (if any) followed by the poll evaluations -/
theorem iteration_logs_search_eval_once (e : Full.Env) (s : Full.St) (q : Full.Orc) :
    ((Full.step e s q).pairs.drop s.pairs.length).map (·.1) = searchEvals e s q ++ (Full.pollCands e s q).map (·.1.u) := by
  rw [Full.step_pairs, List.drop_left]
  unfold Full.newPairs searchEvals
  cases Full.searchCand e s q <;> simp [Function.comp_def]

/-- in every iteration of the loop of a WHOLE CALL (states of `Reach`): at most one search evaluation, the picked survivor -/
theorem optimize_search_step (e : Env) (io : InitOrc) (s : Full.St) (q : Full.Orc)
    (_h : Reach (loopEnv e (init e io)) (loopStart e (init e io)) s) :
    (searchEvals (loopEnv e (init e io)) s q).length ≤ 1 ∧
    ∀ u ∈ searchEvals (loopEnv e (init e io)) s q, (searchSet (loopEnv e (init e io)) s q)[q.searchPick]? = some u :=
  ⟨search_evals_at_most_one _ s q, fun u hu => (search_eval_is_pick _ s q u hu).1⟩

namespace Example
open Bads.Full.Example
/-- non-vacuity: second iteration of the example call - a search is due, two candidates survive the filter, the second is picked and evaluated -/
example : searchEvals (loopEnv eX (init eX ioX)) (Full.step (loopEnv eX (init eX ioX)) (loopStart eX (init eX ioX)) q1) q2 =
      [(searchSet (loopEnv eX (init eX ioX)) (Full.step (loopEnv eX (init eX ioX)) (loopStart eX (init eX ioX)) q1) q2).getD q2.searchPick []] ∧
    searchEvals (loopEnv eX (init eX ioX)) (loopStart eX (init eX ioX)) q1 = [] := by decide +kernel
end Example

end Bads.Opt
