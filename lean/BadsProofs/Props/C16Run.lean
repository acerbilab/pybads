/-
  C16, end to end: in the composed models of a whole run (`Full`, any noise mode; `Det`, deterministic targets) the
  outcome of every GP fit - success, failure, retries, the hyper-parameters and predictions that result - enters
  only through oracle inputs that the theorems quantify universally (the acquisition ranking `searchPick` /
  `pollOrder`, the estimates `(f, sd)`, the threshold and the stall flags).  So every guarantee of
  `Full.full_run_spec`, `Full.full_terminates`, `Det.det_run_spec` holds verbatim for runs in which fits fail, once or
  many times in a row.  Re-exported here so that C16's audit covers them; the mesh invariant is lifted as well.
-/
import BadsProofs.Props.C19Run
import BadsProofs.Props.C04Run

namespace Bads

theorem guarantees_survive_faults_composed :
    (∀ (e : Full.Env), boxOK e.pipe.lb e.pipe.ub = true → 1 ≤ e.o.nTry → ∀ (qs : List Full.Orc), (∀ q ∈ qs, Full.OrcOK e q) →
        ∀ s0 : Full.St, Full.Inv e s0 →
          (∀ p ∈ (Full.run e qs s0).pairs, InBox e.pipe.lb e.pipe.ub p.1) ∧
          (∀ c, e.pipe.cons = some c → ∀ p ∈ (Full.run e qs s0).pairs, c p.1 = false) ∧
          (Full.run e qs s0).ctl.c.fc ≤ e.o.budget ∧
          ((Full.run e qs s0).ns.u, (Full.run e qs s0).ns.yval) ∈ (Full.run e qs s0).pairs) ∧
    (∀ (e : Full.Env), 1 ≤ e.o.nTry → ∀ (qs : List Full.Orc) (s : Full.St), Ctl.CInv e.o s.ctl.c → Ctl.rank e.o s.ctl.c < qs.length →
        (Full.run e qs s).ctl.c.finished = true) ∧
    (∀ (e : Det.Env), boxOK e.pipe.lb e.pipe.ub = true → 1 ≤ e.o.nTry → ∀ (qs : List Det.Orc), (∀ q ∈ qs, Det.OrcOK e q) →
        ∀ s0 : Det.St, Det.Inv e s0 →
          (Det.run e qs s0).inc.fval = e.f (Det.run e qs s0).inc.u ∧ ∀ p ∈ (Det.run e qs s0).log, e.f (Det.run e qs s0).inc.u ≤ e.f p.1) := by
  refine ⟨?_, Full.full_terminates, ?_⟩
  · intro e hb hn qs hq s0 h0
    obtain ⟨h1, _, h3, h4, h5⟩ := Full.full_run_spec e hb hn qs hq s0 h0
    exact ⟨h3, h4, h5, h1⟩
  · intro e hb hn qs hq s0 h0
    obtain ⟨_, h2, h3, _⟩ := Det.det_run_spec e hb hn qs hq s0 h0
    exact ⟨h2, h3⟩

/-- MESH (C13) in the composed model of any noise mode. -/
theorem full_run_minv (e : Full.Env) (hs : e.o.sgm = 2) (hc : e.o.cap ≤ e.o.sgn) :
    ∀ (qs : List Full.Orc) (s : Full.St), Ctl.MInv e.o s.ctl.m → Ctl.MInv e.o (Full.run e qs s).ctl.m :=
  fun qs s h => Full.run_induction e (fun s => Ctl.MInv e.o s.ctl.m) qs s h
    -- (reduce `(Full.step e s q).ctl.m` to `Ctl.mstep ..` first: the unifier would get there by unfolding `mstep`)
    fun q _ s _ h => by dsimp only [Full.step, Ctl.step]; exact Ctl.mstep_minv e.o s.ctl (Full.outOf e s q) hs hc h

end Bads
