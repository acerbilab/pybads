/-
  C15 - The GP surrogate is always conditioned on real, nearby observations.

  For every log state (repeated points included), every vector of distances, all size options.
-/
import BadsProofs.Lemmas.SortLemmas
import Mathlib.Tactic.Linarith

namespace Bads.GP

/-- the sorted (row, distance) pairs behind `neighbors` -/
def ranked (log : List Obs) (dist : List Rat) : List (Obs × Rat) :=
  sortBy (fun a b => decide (a.2 ≤ b.2)) (log.zip dist)

theorem ranked_eq (log : List Obs) (dist : List Rat) :
    ranked log dist = sortBy (keyLe (fun p : Obs × Rat => p.2)) (log.zip dist) := rfl

/-- EVERY TRAINING TRIPLE IS A LOG ROW: same input, same value, and the supplied noise enters as a
    variance - the logged SD squared. -/
theorem neighbors_sub_log (log : List Obs) (dist : List Rat) (r2 : Rat) (nMin nMax buffer : Int) :
    ∀ t ∈ neighbors log dist r2 nMin nMax buffer,
      ∃ o ∈ log, t.x = o.x ∧ t.y = o.y ∧ t.s2 = o.s.map (fun v => v * v) := by
  intro t ht
  obtain ⟨p, hp, rfl⟩ := List.mem_map.mp ht
  have hz := (sortBy_perm _ _).mem_iff.mp (List.mem_of_mem_take hp)
  exact ⟨p.1, (List.of_mem_zip hz).1, rfl, rfl, rfl⟩

/-- ORDERED BY DISTANCE -/
theorem ranked_sorted (log : List Obs) (dist : List Rat) :
    (ranked log dist).Pairwise (fun a b => a.2 ≤ b.2) := by
  rw [ranked_eq]; exact sortBy_sorted _ _

/-- NEAREST: no logged row left out of the training set is strictly closer to the reference point
    than a row that is in it. -/
theorem neighbors_nearest (log : List Obs) (dist : List Rat) (n : Nat) :
    ∀ a ∈ (ranked log dist).take n, ∀ b ∈ (ranked log dist).drop n, a.2 ≤ b.2 :=
  take_le_drop (fun p : Obs × Rat => p.2) _ (ranked_sorted log dist) n

/-- the ranked pairs are exactly the logged rows with their distances (nothing invented, nothing lost) -/
theorem ranked_perm (log : List Obs) (dist : List Rat) : (ranked log dist).Perm (log.zip dist) := sortBy_perm _ _

theorem toNat_min_natCast (b : Int) (N : Nat) : (min b N).toNat = min b.toNat N :=
  Monotone.map_min fun _ _ => Int.toNat_le_toNat

/-- SIZE: between the configured minimum and maximum, capped by the number of logged points. -/
theorem ntrain_bounds (nMin nMax buffer : Int) (within N : Nat) (h0 : 0 ≤ nMin) (h1 : nMin ≤ nMax) (hb : 0 ≤ buffer) :
    min nMin.toNat N ≤ ntrain nMin nMax buffer within N ∧ ntrain nMin nMax buffer within N ≤ min nMax.toNat N := by
  -- the uncapped size lies between `nMin` and `nMax`; `toNat` and the cap are monotone
  have hlo : nMin ≤ max nMin (max (nMax - buffer) (min nMax within)) := le_max_left _ _
  have hhi : max nMin (max (nMax - buffer) (min nMax within)) ≤ nMax :=
    max_le h1 (max_le (sub_le_self _ hb) (min_le_left _ _))
  simp only [ntrain, toNat_min_natCast]
  exact ⟨min_le_min_right _ (Int.toNat_le_toNat hlo), min_le_min_right _ (Int.toNat_le_toNat hhi)⟩

theorem neighbors_length (log : List Obs) (dist : List Rat) (r2 : Rat) (nMin nMax buffer : Int) (hlen : dist.length = log.length) :
    (neighbors log dist r2 nMin nMax buffer).length =
      min (ntrain nMin nMax buffer (dist.filter (fun d => d ≤ r2)).length log.length) log.length := by
  simp only [neighbors, List.length_map, List.length_take]
  rw [(sortBy_perm _ _).length_eq, List.length_zip, hlen, Nat.min_self]

/-- INITIAL FIT: the whole log, SD squared. -/
theorem fevals_variance (log : List Obs) : ∀ t ∈ fevals log, ∃ o ∈ log, t = toTrain o := by
  intro t ht
  obtain ⟨o, ho, rfl⟩ := List.mem_map.mp ht
  exact ⟨o, ho, rfl⟩

/-- POSTERIOR UPDATE: the appended training triple is the evaluated point with its value and the
    reported SD squared; the rest of the training set is untouched. -/
theorem addPoint_is_last (gp : List Train) (x : Pt) (y : Rat) (sd : Option Rat) :
    addPoint gp x y sd = gp ++ [toTrain { x := x, y := y, s := sd }] := rfl

/-- ACQUISITION: GP mean minus sqrt(beta_t) times GP SD; larger uncertainty never ranks worse. -/
theorem lcb_def (mu s b : Rat) : lcb mu s b = mu - b * s := rfl

theorem lcb_antitone_in_sd (mu s s' b : Rat) (hb : 0 ≤ b) (hs : s ≤ s') : lcb mu s' b ≤ lcb mu s b :=
  sub_le_sub_left (mul_le_mul_of_nonneg_left hs hb) mu

theorem lcb_monotone_in_mean (mu mu' s b : Rat) (h : mu ≤ mu') : lcb mu s b ≤ lcb mu' s b :=
  sub_le_sub_right h _

/-! Non-vacuity: four logged rows (one repeated point), two within the radius, minimum size 3. -/
example :
    neighbors [⟨[0], 5, some 2⟩, ⟨[1], 6, some 1⟩, ⟨[1], 7, some 3⟩, ⟨[9], 1, some 1⟩] [4, 1, 1, 81] 2 3 10 100 =
      [⟨[1], 6, some 1⟩, ⟨[1], 7, some 9⟩, ⟨[0], 5, some 4⟩] := by
  decide +kernel

end Bads.GP
