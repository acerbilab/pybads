/-
  C10 - Target failures and invalid target values surface immediately and unchanged.

  Model: the logger's `call` on an `Outcome` (Logger.lean) and a run as the sequence of calls
  optimize() makes; there is no handler around any target call (bads.py l.924, 934, 1013, 1649,
  2080, 1465), so the first failing call ends the run.  For EVERY position of the faulty call and
  every fault kind.
-/
import BadsProofs.Props.C12

namespace Bads.Log

/-- one target call of the run: the point (original, internal), what the target did, record flag -/
structure CallIn where
  xo : Pt
  x : Pt
  out : Outcome
  rd : Bool

/-- Make the calls in order; stop at the first failure (nothing encloses a target call). Returns
    the final logger state and, if a call failed, its index and the error that propagates. -/
def runCalls (s : St) : List CallIn → Nat → St × Option (Nat × Err)
  | [], _ => (s, none)
  | c :: cs, k =>
    match call s c.xo c.x c.out c.rd with
    | .ok (s', _) => runCalls s' cs (k + 1)
    | .error e => (s, some (k, e))

/-- an outcome the logger accepts -/
def Outcome.valid (he : Bool) : Outcome → Bool
  | .scalar (some _) => !he
  | .pair (some _) (some _) => he
  | _ => false

/-- the error an invalid outcome produces -/
def Outcome.errOf : Outcome → Err
  | .raises => .targetError
  | _ => .valueError

theorem runCalls_cons_ok {s s' : St} {c : CallIn} {r : Ret} (h : call s c.xo c.x c.out c.rd = .ok (s', r)) (cs : List CallIn) (k : Nat) :
    runCalls s (c :: cs) k = runCalls s' cs (k + 1) := by
  simp only [runCalls, h]

theorem call_invalid (s : St) (xo x : Pt) (out : Outcome) (rd : Bool) (h : out.valid s.he = false) :
    call s xo x out rd = .error out.errOf := by
  obtain ⟨hraises, htuple, hscalar, hpairY, hpairSD, hhe, hnhe⟩ := call_error_kind s xo x rd
  cases out with
  | raises => exact hraises
  | otherTuple => exact htuple
  | scalar y =>
    cases y with
    | none => exact hscalar
    | some y => exact hhe (by simpa [Outcome.valid] using h) _
  | pair y sd =>
    cases y with
    | none => exact hpairY sd
    | some y =>
      cases sd with
      | none => exact hpairSD _
      | some sd => exact hnhe h _ _

/-- In specified-noise mode the logged points are pairwise distinct (repeats are merged). -/
def DistinctX (s : St) : Prop := s.he = true → (s.rows.map (·.x)).Nodup

theorem firstMatch_none_not_mem (x : Pt) : ∀ rows : List Row, firstMatch x rows = none → x ∉ rows.map (·.x) := by
  intro rows h hx
  obtain ⟨r, hr, rfl⟩ := List.mem_map.mp hx
  rw [firstMatch_eq_findIdx?, List.findIdx?_eq_none_iff] at h
  simpa using h r hr

theorem countMatch_eq_count (x : Pt) (rows : List Row) : countMatch x rows = (rows.map (·.x)).count x := by
  rw [countMatch, List.count, List.countP_map, List.countP_eq_length_filter]
  rfl

theorem countMatch_le_one_of_nodup (x : Pt) : ∀ rows : List Row, (rows.map (·.x)).Nodup → countMatch x rows ≤ 1 := by
  intro rows h
  rw [countMatch_eq_count]
  exact List.nodup_iff_count.mp h x

theorem record_distinct (s : St) (xo x : Pt) (y sdv : Rat) (rd : Bool) (s' : St) (v : Rat) (idx : Option Nat)
    (h : record s xo x y (some sdv) rd = .ok (s', v, idx)) (hd : (s.rows.map (·.x)).Nodup) (hhe0 : s.he = true) :
    (s'.rows.map (·.x)).Nodup ∧ s'.he = s.he := by
  refine ⟨?_, record_he h⟩
  rcases record_cases s xo x y (some sdv) rd s' v idx h with ⟨i, _, _, rfl, _⟩ | ⟨_, _, rfl, _⟩ | ⟨i, sd', _, _, _, rfl, _⟩ | ⟨c, _, h1, rfl, _⟩
  · exact (bumpN_map (·.x) (fun _ => rfl) s.rows i).symm ▸ hd
  · exact hd
  · exact (modAt_map (fun r => mergeRow r y sd') (·.x) (fun _ => rfl) s.rows i).symm ▸ hd
  · have hx := firstMatch_none_not_mem x s.rows (by simpa [hhe0] using h1)
    rw [List.map_append]
    exact List.nodup_append.mpr ⟨hd, List.pairwise_singleton _ x, fun a ha b hb e => hx ((List.mem_singleton.mp hb : b = x) ▸ e ▸ ha)⟩

/-- a valid outcome is always accepted (the state stays in its mode, and keeps the invariant) -/
theorem call_valid_ok (s : St) (xo x : Pt) (out : Outcome) (rd : Bool) (h : out.valid s.he = true)
    (hinv : DistinctX s) : ∃ s' r, call s xo x out rd = .ok (s', r) ∧ s'.he = s.he ∧ DistinctX s' := by
  unfold Outcome.valid at h
  split at h
  · rename_i y
    have hhe : s.he = false := by simpa using h
    obtain ⟨s1, v, idx, hr⟩ := record_ok s xo x y none rd fun h => absurd rfl h
    have hhe1 : s1.he = s.he := record_he hr
    exact ⟨_, _, call_scalar_ok hhe hr, hhe1, fun h1 => nomatch (h1.symm.trans hhe1).trans hhe⟩
  · rename_i y sd
    have hd := hinv h
    obtain ⟨s1, v, idx, hr⟩ := record_ok s xo x y (some sd) rd fun _ _ => countMatch_le_one_of_nodup x s.rows hd
    obtain ⟨hd1, hhe1⟩ := record_distinct s xo x y sd rd s1 v idx hr hd h
    exact ⟨_, _, call_pair_ok h hr, hhe1, fun _ => hd1⟩
  · cases h

/-- NOTHING INVALID IS LOGGED: a rejected call leaves the logger state untouched (the error carries
    no state), so the records after a failed run are those of the valid calls before it. -/
theorem failed_call_logs_nothing (s : St) (c : CallIn) (cs : List CallIn) (k0 : Nat) (e : Err)
    (h : call s c.xo c.x c.out c.rd = .error e) : runCalls s (c :: cs) k0 = (s, some (k0, e)) := by
  simp only [runCalls, h]

/-- FIRST FAULT ENDS THE RUN: if the `k`-th call is the first one whose outcome is invalid, the
    run's result is that call's own error (the target's exception for `raises`, ValueError for
    every invalid value), raised AT call `k`; no later call is made. -/
theorem stops_at_first_fault : ∀ (pre : List CallIn) (bad : CallIn) (post : List CallIn) (s : St) (k0 : Nat),
    DistinctX s → bad.out.valid s.he = false → (∀ c ∈ pre, c.out.valid s.he = true) →
    ∃ sf, runCalls s (pre ++ bad :: post) k0 = (sf, some (k0 + pre.length, bad.out.errOf)) ∧ sf.he = s.he := by
  intro pre bad post
  induction pre with
  | nil =>
    intro s k0 _ hb _
    exact ⟨s, failed_call_logs_nothing s bad post k0 _ (call_invalid s bad.xo bad.x bad.out bad.rd hb), rfl⟩
  | cons c pre ih =>
    intro s k0 hinv hb hv
    obtain ⟨s', r, hcall, hhe, hinv'⟩ := call_valid_ok s c.xo c.x c.out c.rd (hv c List.mem_cons_self) hinv
    obtain ⟨sf, hrun, hsf⟩ := ih s' (k0 + 1) hinv' (hhe ▸ hb) fun c' hc' => hhe ▸ hv c' (List.mem_cons_of_mem _ hc')
    refine ⟨sf, ?_, hsf.trans hhe⟩
    rw [List.cons_append, runCalls_cons_ok hcall, hrun, List.length_cons, Nat.add_assoc, Nat.add_comm 1]

theorem init_distinct (cache : Nat) (noise he : Bool) : DistinctX (init cache noise he) := by
  intro _; simp [init]

/-- COUNT: after a run that failed at call `k`, `func_count` equals the number of calls that
    returned valid values before it. -/
theorem fc_counts_valid_only : ∀ (cs : List CallIn) (s : St) (k0 : Nat) (sf : St) (res : Option (Nat × Err)),
    runCalls s cs k0 = (sf, res) →
    sf.fc + k0 = s.fc + (match res with | some (k, _) => k | none => k0 + cs.length) := by
  intro cs
  induction cs with
  | nil =>
    rintro s k0 sf res ⟨⟩
    rfl
  | cons c cs ih =>
    intro s k0 sf res h
    cases hc : call s c.xo c.x c.out c.rd with
    | error e =>
      rw [failed_call_logs_nothing s c cs k0 e hc] at h
      cases h
      rfl
    | ok t =>
      obtain ⟨s', r⟩ := t
      rw [runCalls_cons_ok hc] at h
      -- the claim for the remaining calls (made from `s'.fc = s.fc + 1`, counted from `k0 + 1`) is this one with 1 added on both sides
      have := ih s' (k0 + 1) sf res h
      have hfc := call_fc s c.xo c.x c.out c.rd s' r hc
      cases res with
      | none => simp only [List.length_cons] at this ⊢; omega
      | some p => simp only at this ⊢; omega

/-! Non-vacuity: a NaN at the third call of a deterministic-mode logger. -/
example :
    let s0 := init 2 false false
    let r := runCalls s0 [⟨[0], [0], .scalar (some 1), true⟩, ⟨[0], [0], .scalar (some 1), false⟩, ⟨[1], [1], .scalar none, true⟩,
                          ⟨[2], [2], .scalar (some 5), true⟩] 0
    (r.1.fc, r.1.rows.length, r.2) = (2, 1, some (2, Err.valueError)) := by
  decide +kernel

end Bads.Log
