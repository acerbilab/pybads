/-
  C12 - bookkeeping of the evaluation log across cache growth: in every reachable state of the logger the
  allocated capacity holds all records and `X_max_idx` is the index of the last record (so that the
  "logged points" every consumer slices with `X[:X_max_idx + 1]` are exactly the records, C15), whatever
  the initial `cache_size` (0 included) and however often the arrays had to grow.
-/
import BadsProofs.Props.C12

namespace Bads.Log

/-- capacity covers the records; `X_max_idx` points at the last one (`-1` for the empty log) -/
def BK (s : St) : Prop := s.rows.length ≤ s.cap ∧ s.xMaxIdx = (s.rows.length : Int) - 1

theorem init_bk (cache : Nat) (noise he : Bool) : BK (init cache noise he) :=
  ⟨Nat.zero_le _, rfl⟩

theorem growBy_pos (n : Nat) : 1 ≤ growBy n := le_max_right _ _

/-- the capacity after the growth rule of `_record` holds one more row -/
theorem grown_cap_covers (n cap : Nat) (h : n ≤ cap) :
    n + 1 ≤ if n > cap - 1 || cap = 0 then cap + growBy n else cap := by
  split
  · exact Nat.add_le_add h (growBy_pos n)
  · rename_i hc
    simp only [Bool.or_eq_true, decide_eq_true_eq, not_or, not_lt] at hc
    exact Nat.lt_of_le_sub_one (Nat.pos_of_ne_zero hc.2) hc.1

theorem record_bk (s : St) (xo x : Pt) (y : Rat) (sd : Option Rat) (rd : Bool) (s' : St) (v : Rat)
    (idx : Option Nat) (h : record s xo x y sd rd = .ok (s', v, idx)) (hb : BK s) : BK s' := by
  obtain ⟨h1, h2⟩ := hb
  rcases record_cases s xo x y sd rd s' v idx h with ⟨i, _, _, rfl, _⟩ | ⟨_, _, rfl, _⟩ | ⟨i, sdv, _, _, _, rfl, _⟩ | ⟨c, _, _, rfl, _, _, _, hc⟩
  · simp only [BK, bumpN, modAt_length]
    exact ⟨h1, h2⟩
  · exact ⟨h1, h2⟩
  · simp only [BK, modAt_length]
    exact ⟨h1, h2⟩
  · have hcap : s.rows.length + 1 ≤ c := hc ▸ grown_cap_covers _ _ h1
    simp only [BK, List.length_append, List.length_cons, List.length_nil]
    omega

theorem call_bk (s : St) (xo x : Pt) (out : Outcome) (rd : Bool) (s' : St) (r : Ret)
    (h : call s xo x out rd = .ok (s', r)) (hb : BK s) : BK s' := by
  obtain ⟨y, sd, s1, v, idx, hrec, rfl, _⟩ := call_eq_ok h
  exact record_bk s xo x y sd rd s1 v idx hrec hb

theorem add_bk (s : St) (xo x : Pt) (y : Option Rat) (sd : Option (Option Rat)) (s' : St) (r : Ret)
    (h : add s xo x y sd = .ok (s', r)) (hb : BK s) : BK s' := by
  obtain ⟨yv, sdv, v, idx, hrec, _⟩ := add_eq_ok h
  exact record_bk _ xo x yv sdv true s' v idx hrec hb

/-- EVERY REACHABLE STATE of the logger, for every operation sequence and every initial cache size. -/
theorem runOps_bk : ∀ (ops : List Op) (s : St), BK s → BK (runOps s ops) := by
  refine runOps_induction BK fun s op s' r hstep hb => ?_
  obtain ⟨cc, fc, xo, x, y, sd, rd, s1, v, idx, hrec, rfl⟩ := step_eq_ok hstep
  exact record_bk _ xo x y sd rd s1 v idx hrec hb

theorem reachable_bk (cache : Nat) (noise he : Bool) (ops : List Op) : BK (runOps (init cache noise he) ops) :=
  runOps_bk ops _ (init_bk cache noise he)

/-- non-vacuity: a log of cache size 1 grown twice -/
example : (runOps (init 1 false false) [.call [0] [0] (.scalar (some 1)) true, .call [1] [1] (.scalar (some 2)) true,
    .call [2] [2] (.scalar (some 3)) true]).cap = 3 ∧
    (runOps (init 1 false false) [.call [0] [0] (.scalar (some 1)) true, .call [1] [1] (.scalar (some 2)) true,
    .call [2] [2] (.scalar (some 3)) true]).xMaxIdx = 2 := by decide +kernel

end Bads.Log
