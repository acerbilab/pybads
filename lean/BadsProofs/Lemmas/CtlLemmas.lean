/-
  The counters of one loop iteration (`Ctl.cstep`), read in three parts - the search step, the poll, the termination tests
  (`cstep_eq`) -, the equations of each part, and from them the control and budget invariants, the ranking function of the
  termination proof and the soundness of the termination message.  Nothing outside this file unfolds `cstep`.
-/
import BadsModel.Controller
import BadsProofs.Lemmas.LoopLemmas

namespace Bads.Ctl

/-- Control invariant of the loop. -/
def CInv (o : Opts) (c : CSt) : Prop :=
  c.sc ≤ o.nTry ∧ (0 < c.sc → c.sc < o.nTry → c.nRec > o.D) ∧ (c.ss > 0 → 0 < c.sc) ∧
  (c.sc = o.nTry → c.ss = 0)

/-- Budget invariant: the count never exceeds the budget, and an unfinished state still has
    budget left - except the loop-entry state (search_count = search_n_try), which runs no search. -/
def BInv (o : Opts) (c : CSt) : Prop :=
  c.fc ≤ o.budget ∧ (c.finished = false → c.fc < o.budget ∨ c.sc = o.nTry)

/-- what is left of the poll iterations and of the budget, plus one for a success that will let a poll be skipped -/
def X (o : Opts) (c : CSt) : Nat :=
  (o.maxIter - c.pollIter) + (o.budget - c.fc) + (if c.ss > 0 then 1 else 0)
/-- what is left of the current round of searches -/
def Y (o : Opts) (c : CSt) : Nat := o.nTry - c.sc

/-- Scalar ranking function: lexicographic (X, Y) packed into one natural number. -/
def rank (o : Opts) (c : CSt) : Nat := (o.nTry + 1) * X o c + Y o c

theorem lex_to_rank (n x x' y y' : Nat)
    (h : (x' + 1 ≤ x ∧ y' ≤ n) ∨ (x' = x ∧ y' + 1 ≤ y)) :
    (n+1)*x' + y' + 1 ≤ (n+1)*x + y := by
  rcases h with ⟨h1, h2⟩ | ⟨h1, h2⟩
  · -- `(n+1)*x' + (y'+1) ≤ (n+1)*(x'+1) ≤ (n+1)*x`
    have := Nat.mul_le_mul_left (n+1) h1
    rw [Nat.mul_succ] at this; omega
  · subst h1; exact Nat.add_le_add_left h2 _

/-- evaluations made, successes counted and log rows created by a search outcome -/
def SOut.evals : SOut → Nat
  | .empty => 0
  | .eval _ _ => 1
def SOut.wins : SOut → Nat
  | .eval _ .success => 1
  | _ => 0
def SOut.rows : SOut → Nat
  | .eval nr _ => b2n nr
  | .empty => 0

theorem SOut.wins_le (so : SOut) : so.wins ≤ so.evals ∧ so.evals ≤ 1 := by
  cases so with
  | empty => decide
  | eval nr st => cases st <;> simp [wins, evals]

/-- the middle of `cstep`, from the counters `c1` after the search step: the reset at the end of a round of searches, then the
    evaluations of the poll if one runs -/
def cPoll (o : Opts) (c1 : CSt) (nz newRows : Nat) : CSt :=
  let c2 := cReset o c1
  if doPoll o c1 then { c2 with fc := c2.fc + nEvals o c2.fc nz, nRec := c2.nRec + min newRows (nEvals o c2.fc nz) } else c2

/-- the end of `cstep`: the termination tests of l.1299-1337 on the counters `c3` the iteration ends with (reducible, so that `rw` and
    `simp` see a field the tests leave alone as that of `c3`) -/
abbrev cTests (o : Opts) (c3 : CSt) (polled meshStop stallStop : Bool) : CSt :=
  let t1 := decide (c3.fc ≥ o.budget)
  let t2 := decide (c3.pollIter + 1 ≥ o.maxIter)
  let t4 := decide (c3.pollIter + 1 > o.stallIters) && stallStop
  let fin := t1 || t2 || meshStop || t4
  { c3 with finished := fin,
            msg := if t4 then .tolFun else if meshStop then .tolMesh else if t2 then .maxIter else if t1 then .maxEvals else .none,
            pollIter := if !fin && polled then c3.pollIter + 1 else c3.pollIter }

theorem cstep_eq (o : Opts) (c : CSt) (co : COut) :
    cstep o c co = cTests o (cPoll o (cAfterSearch o c co.search) co.nz co.newRows)
      (doPoll o (cAfterSearch o c co.search)) co.meshStop co.stallStop := rfl

section
variable (o : Opts) (c c1 c3 : CSt) (co : COut) (so : SOut) (nz newRows : Nat) (polled meshStop stallStop : Bool)

theorem doSearch_iff : doSearch o c = true ↔ c.sc < o.nTry ∧ o.D < c.nRec := by simp [doSearch]

theorem atEnd_iff : atEnd o c = true ↔ c.sc = 0 ∨ c.sc = o.nTry := by simp [atEnd]

/-- a poll runs at the end of a round of searches, unless a success lets it be skipped -/
theorem doPoll_iff : doPoll o c = true ↔ (c.sc = 0 ∨ c.sc = o.nTry) ∧ ¬ (0 < c.ss ∧ o.skip = true) := by
  rw [← atEnd_iff, doPoll, skipPoll]
  cases atEnd o c <;> cases o.skip <;> simp

theorem cAfterSearch_eq : cAfterSearch o c so =
    if c.sc < o.nTry ∧ o.D < c.nRec then
      { c with sc := c.sc + 1, fc := c.fc + so.evals, nRec := c.nRec + so.rows, ss := c.ss + so.wins }
    else c := by
  unfold cAfterSearch
  simp only [doSearch_iff]
  cases so with
  | empty => rfl
  | eval nr st => cases st <;> rfl

theorem cAfterSearch_fc : (cAfterSearch o c so).fc = c.fc + (if c.sc < o.nTry ∧ o.D < c.nRec then so.evals else 0) := by
  rw [cAfterSearch_eq]; split <;> rfl

theorem cAfterSearch_pollIter : (cAfterSearch o c so).pollIter = c.pollIter := by
  rw [cAfterSearch_eq]; split <;> rfl

theorem cReset_fc : (cReset o c).fc = c.fc := by unfold cReset; split <;> rfl

theorem cReset_pollIter : (cReset o c).pollIter = c.pollIter := by unfold cReset; split <;> rfl

theorem cPoll_sc : (cPoll o c1 nz newRows).sc = if c1.sc = 0 ∨ c1.sc = o.nTry then 0 else c1.sc := by
  simp only [cPoll, cReset, atEnd_iff, apply_ite CSt.sc, ite_self]

theorem cPoll_ss : (cPoll o c1 nz newRows).ss = if c1.sc = 0 ∨ c1.sc = o.nTry then 0 else c1.ss := by
  simp only [cPoll, cReset, atEnd_iff, apply_ite CSt.ss, ite_self]

theorem cPoll_fc : (cPoll o c1 nz newRows).fc = c1.fc + if doPoll o c1 = true then nEvals o c1.fc nz else 0 := by
  simp only [cPoll]; split <;> simp [cReset_fc]

theorem cPoll_nRec_le : c1.nRec ≤ (cPoll o c1 nz newRows).nRec := by
  simp only [cPoll, cReset, apply_ite CSt.nRec, ite_self]
  exact iteInduction (fun _ => Nat.le_add_right _ _) fun _ => Nat.le_refl _

theorem cPoll_pollIter : (cPoll o c1 nz newRows).pollIter = c1.pollIter := by
  simp only [cPoll]; split <;> exact cReset_pollIter o c1

theorem cTests_finished : (cTests o c3 polled meshStop stallStop).finished = false ↔
    c3.fc < o.budget ∧ c3.pollIter + 1 < o.maxIter ∧ meshStop = false ∧ ¬ (o.stallIters < c3.pollIter + 1 ∧ stallStop = true) := by
  simp [and_assoc]

theorem cTests_pollIter : (cTests o c3 polled meshStop stallStop).pollIter =
    if (!(cTests o c3 polled meshStop stallStop).finished && polled) = true then c3.pollIter + 1 else c3.pollIter := by
  unfold cTests; rfl

/-- The message is that of the LAST test that fires, in the code's order, and each test is evaluated on the counters the iteration
    ends with (a finished iteration does not advance `poll_iteration`). -/
theorem cTests_msg_sound : msgSound o (cTests o c3 polled meshStop stallStop) meshStop stallStop = true := by
  unfold msgSound
  dsimp only
  by_cases h4 : (decide (c3.pollIter + 1 > o.stallIters) && stallStop) = true
  · simp [*]
  · by_cases h3 : meshStop = true
    · simp [*]
    · by_cases h2 : decide (c3.pollIter + 1 ≥ o.maxIter) = true
      · simp [*]
      · by_cases h1 : decide (c3.fc ≥ o.budget) = true <;> simp [*]

theorem cstep_sc : (cstep o c co).sc =
    if (cAfterSearch o c co.search).sc = 0 ∨ (cAfterSearch o c co.search).sc = o.nTry then 0
    else (cAfterSearch o c co.search).sc := by rw [cstep_eq, cPoll_sc]

theorem cstep_ss : (cstep o c co).ss =
    if (cAfterSearch o c co.search).sc = 0 ∨ (cAfterSearch o c co.search).sc = o.nTry then 0
    else (cAfterSearch o c co.search).ss := by rw [cstep_eq, cPoll_ss]

theorem cstep_fc : (cstep o c co).fc = (cAfterSearch o c co.search).fc +
    (if doPoll o (cAfterSearch o c co.search) = true then nEvals o (cAfterSearch o c co.search).fc co.nz else 0) := by
  rw [cstep_eq, cPoll_fc]

theorem cstep_finished : (cstep o c co).finished = false ↔
    (cstep o c co).fc < o.budget ∧ c.pollIter + 1 < o.maxIter ∧ co.meshStop = false ∧
      ¬ (o.stallIters < c.pollIter + 1 ∧ co.stallStop = true) := by
  rw [cstep_eq, cTests_finished, cPoll_pollIter, cAfterSearch_pollIter]

theorem cstep_pollIter_eq : (cstep o c co).pollIter =
    if (!(cstep o c co).finished && doPoll o (cAfterSearch o c co.search)) = true then c.pollIter + 1 else c.pollIter := by
  rw [cstep_eq, cTests_pollIter, cPoll_pollIter, cAfterSearch_pollIter]

end

theorem cstep_fc_mono (o : Opts) (c : CSt) (co : COut) : c.fc ≤ (cstep o c co).fc := by
  rw [cstep_fc, cAfterSearch_fc]; omega

theorem no_idle (o : Opts) (c : CSt) (search : SOut) (hinv : CInv o c) :
    doSearch o c = true ∨ doPoll o (cAfterSearch o c search) = true := by
  -- with no search due the counters stay, `sc` is 0 or `nTry` by the invariant, and then no success is pending that could skip the poll
  rw [doPoll_iff, doSearch_iff, cAfterSearch_eq]
  unfold CInv at hinv
  grind

theorem cstep_inv (o : Opts) (c : CSt) (co : COut) (hinv : CInv o c) :
    CInv o (cstep o c co) := by
  obtain ⟨h1, h2, _, _⟩ := hinv
  have hrec : (cAfterSearch o c co.search).nRec ≤ (cstep o c co).nRec := by simp only [cstep_eq, cPoll_nRec_le]
  rw [CInv, cstep_sc, cstep_ss]
  have hc1 := cAfterSearch_eq o c co.search
  generalize cAfterSearch o c co.search = c1 at *
  by_cases hE : c1.sc = 0 ∨ c1.sc = o.nTry
  · -- the round ends: both counters are reset
    rw [if_pos hE, if_pos hE]
    exact ⟨Nat.zero_le _, (Nat.lt_irrefl 0).elim, (Nat.lt_irrefl 0).elim, fun _ => rfl⟩
  · -- inside a round a search was made (by the invariant one was due), so `0 < sc < nTry` still, and the log has only grown since
    rw [if_neg hE, if_neg hE]
    rw [not_or] at hE
    split at hc1
    · rename_i hd
      subst hc1
      exact ⟨hd.1, fun _ _ => Nat.lt_of_lt_of_le (Nat.lt_of_lt_of_le hd.2 (Nat.le_add_right _ _)) hrec, fun _ => Nat.succ_pos _,
        hE.2.elim⟩
    · rename_i hd
      subst hc1
      have hlt := Nat.lt_of_le_of_ne h1 hE.2
      exact absurd ⟨hlt, h2 (Nat.pos_of_ne_zero hE.1) hlt⟩ hd

theorem cstep_binv (o : Opts) (c : CSt) (co : COut) (hb : BInv o c) (hnf : c.finished = false) :
    BInv o (cstep o c co) := by
  refine ⟨?_, fun h => Or.inl ((cstep_finished o c co).mp h).1⟩
  rw [cstep_fc, cAfterSearch_fc]
  generalize hfc : c.fc + (if c.sc < o.nTry ∧ o.D < c.nRec then co.search.evals else 0) = fc1
  -- a search is only due before `search_n_try`, when the invariant leaves room for its evaluation; the poll takes what is left
  have h1 : fc1 ≤ o.budget := by
    subst hfc
    split
    · rename_i hd
      exact Nat.le_trans (Nat.add_le_add_left co.search.wins_le.2 _) ((hb.2 hnf).resolve_right (Nat.ne_of_lt hd.1))
    · exact hb.1
  split
  · exact Nat.add_le_of_le_sub' h1 (Nat.le_trans (Nat.min_le_right _ _) (Nat.min_le_right _ _))
  · exact h1

theorem cstep_pollIter_le (o : Opts) (c : CSt) (co : COut) (h : c.pollIter + 1 ≤ max o.maxIter 1) :
    (cstep o c co).pollIter + 1 ≤ max o.maxIter 1 := by
  rw [cstep_pollIter_eq]
  split
  · -- the iteration that advances `poll_iteration` is unfinished, so the `maxIter` test did not fire
    rename_i hp
    rw [Bool.and_eq_true, Bool.not_eq_true'] at hp
    exact Nat.le_trans ((cstep_finished o c co).mp hp.1).2.1 (Nat.le_max_left _ _)
  · exact h

/-- The lexicographic decrease behind `rank`. -/
theorem cstep_lex (o : Opts) (c : CSt) (co : COut) (hinv : CInv o c) (hnf : (cstep o c co).finished = false) :
    (X o (cstep o c co) + 1 ≤ X o c ∧ Y o (cstep o c co) ≤ o.nTry) ∨
    (X o (cstep o c co) = X o c ∧ Y o (cstep o c co) + 1 ≤ Y o c) := by
  have hev := co.search.wins_le
  obtain ⟨hb, hi, -⟩ := (cstep_finished o c co).mp hnf
  simp only [X, Y, CInv, cstep_sc, cstep_ss, cstep_fc, cstep_pollIter_eq, doPoll_iff, hnf, Bool.not_false, Bool.true_and] at *
  have h1 := cAfterSearch_eq o c co.search
  generalize cAfterSearch o c co.search = c1 at *
  by_cases hE : c1.sc = 0 ∨ c1.sc = o.nTry
  · -- the round ends: `search_count` and `search_success` are reset, so `Y` is back at its maximum and `X` has to pay -
    -- a poll advances `poll_iteration`, a skipped poll uses up the success that caused it
    left
    simp only [hE, if_true, true_and] at hb ⊢
    split at h1 <;> subst h1 <;> grind
  · -- a search inside a round: `Y` drops, and `X` does not rise, a success being counted only together with its evaluation
    simp only [hE, if_false, false_and] at hb ⊢
    split at h1 <;> subst h1 <;> grind

theorem cstep_msg_sound (o : Opts) (c : CSt) (co : COut) :
    msgSound o (cstep o c co) co.meshStop co.stallStop = true := by
  rw [cstep_eq]; exact cTests_msg_sound o _ _ _ _

/-- The call count of a composed iteration in the model's own numbers: `ns` evaluations in the search step and `np` in the poll, one
    improvement offered per poll evaluation - no more than the poll's loop guard lets it evaluate out of `n` candidates, none when no
    poll runs. -/
theorem step_fc_add (o : Opts) (s : St) (out : Out) (n ns np : Nat)
    (hs : (cAfterSearch o s.c out.search).fc = s.c.fc + ns) (hz : out.zs.length = np)
    (hle : np ≤ nEvals o (cReset o (cAfterSearch o s.c out.search)).fc n) (hnot : ranPoll o s out = false → np = 0) :
    (step o s out).c.fc = s.c.fc + ns + np := by
  show (cstep o s.c (coutOf o s out)).fc = _
  rw [cstep_fc, ← hs]
  show (cAfterSearch o s.c out.search).fc +
    (if ranPoll o s out = true then nEvals o (cAfterSearch o s.c out.search).fc out.zs.length else 0) = _
  rw [cReset_fc] at hle
  split
  · rw [hz, nEvals, Nat.min_eq_left (Nat.le_trans hle (Nat.min_le_right _ _))]
  · rw [hnot (Bool.of_not_eq_true ‹_›)]

theorem run_eq_whileRun (o : Opts) : ∀ (n : Nat) (oracle : Nat → Out) (s : St),
    run o oracle n s = whileRun (fun s => s.c.finished) (step o) ((List.range n).map oracle) s := by
  intro n
  induction n with
  | zero => exact fun _ _ => rfl
  | succ n ih =>
    intro oracle s
    rw [List.range_succ_eq_map, List.map_cons, List.map_map]
    unfold run whileRun
    rw [ih]
    rfl

/-- what `whileRun_finished` asks of an iteration: the control invariant is kept and an unfinished iteration lowers the rank -/
theorem step_rank (o : Opts) (s : St) (out : Out) (hinv : CInv o s.c) :
    CInv o (step o s out).c ∧ ((step o s out).c.finished = false → rank o (step o s out).c < rank o s.c) :=
  ⟨cstep_inv o s.c _ hinv, fun hnf => lex_to_rank _ _ _ _ _ (cstep_lex o s.c (coutOf o s out) hinv hnf)⟩

theorem run_induction (o : Opts) (P : St → Prop) (hstep : ∀ s out, s.c.finished = false → P s → P (step o s out))
    (n : Nat) (oracle : Nat → Out) (s : St) (h : P s) : P (run o oracle n s) := by
  rw [run_eq_whileRun]
  exact whileRun_induction _ _ P _ s h (fun q _ s => hstep s q)

end Bads.Ctl
