/-
  The search box (the hard bounds moved inwards onto the search grid): each bound moves by at most one mesh step, so the search box
  lies inside the hard box (`inBox_search_sub`) and, when the hard box is at least two steps wide (`wideB`), is itself a box (`searchBox_ok`).
-/
import BadsModel.Mesh
import BadsProofs.Lemmas.NumLemmas

namespace Bads

/-- The lower search bound is never below the hard bound, and within one mesh step of it. -/
theorem searchLo1_ge (h a : Rat) (hh : 0 < h) :
    ∃ g, searchLo1 h (.fin a) = .fin g ∧ a ≤ g ∧ g ≤ a + h := by
  -- the snapped value is within `h/2 ≤ h` of `a`, on either side; from below `a`, one step up lands above `a`
  obtain ⟨hle, hge⟩ := abs_sub_le_iff.mp ((forceToGrid_close h a hh).trans (half_le_self hh.le))
  refine ⟨_, rfl, ?_⟩
  split_ifs with hlt
  · exact ⟨sub_le_iff_le_add'.mp hge, add_le_add_left hlt.le h⟩
  · exact ⟨not_lt.mp hlt, sub_le_iff_le_add'.mp hle⟩

theorem searchHi1_le (h b : Rat) (hh : 0 < h) :
    ∃ g, searchHi1 h (.fin b) = .fin g ∧ g ≤ b ∧ b - h ≤ g := by
  obtain ⟨hle, hge⟩ := abs_sub_le_iff.mp ((forceToGrid_close h b hh).trans (half_le_self hh.le))
  refine ⟨_, rfl, ?_⟩
  split_ifs with hgt
  · exact ⟨sub_le_comm.mp hle, sub_le_sub_right hgt.le h⟩
  · exact ⟨not_lt.mp hgt, sub_le_comm.mp hge⟩

theorem geLo_of_searchLo1 (h : Rat) (hh : 0 < h) (l : Ext) (x : Rat) (hx : geLo (searchLo1 h l) x) :
    geLo l x := by
  cases l with
  | fin a =>
    obtain ⟨g, hg, hag, _⟩ := searchLo1_ge h a hh
    rw [hg] at hx
    exact hag.trans hx
  | _ => exact hx

theorem leHi_of_searchHi1 (h : Rat) (hh : 0 < h) (u : Ext) (x : Rat) (hx : leHi (searchHi1 h u) x) :
    leHi u x := by
  cases u with
  | fin b =>
    obtain ⟨g, hg, hgb, _⟩ := searchHi1_le h b hh
    rw [hg] at hx
    exact hx.trans hgb
  | _ => exact hx

theorem isLo_searchLo1 (h : Rat) (l : Ext) : isLo (searchLo1 h l) = isLo l := by
  cases l <;> rfl

theorem isHi_searchHi1 (h : Rat) (u : Ext) : isHi (searchHi1 h u) = isHi u := by
  cases u <;> rfl

/-- Each bound moves inwards by at most one mesh step, so two steps of width keep them in order. -/
theorem loLeHi_search (h : Rat) (hh : 0 < h) (l u : Ext)
    (hw : ∀ a b, l = .fin a → u = .fin b → 2 * h ≤ b - a) :
    loLeHi (searchLo1 h l) (searchHi1 h u) = true := by
  cases l with
  | fin a =>
    cases u with
    | fin b =>
      obtain ⟨g1, hg1, _, hle1⟩ := searchLo1_ge h a hh
      obtain ⟨g2, hg2, _, hge2⟩ := searchHi1_le h b hh
      have := hw a b rfl rfl
      rw [hg1, hg2]
      -- `g1 ≤ a + h ≤ b - h ≤ g2`
      exact decide_eq_true (hle1.trans (le_trans (by linarith) hge2))
    | _ => rfl
  | _ => rfl

theorem inBox_search_sub (h : Rat) (hh : 0 < h) (lb ub : List Ext) (p : Pt)
    (hp : inBoxB (searchLo h lb) (searchHi h ub) p = true) : inBoxB lb ub p = true := by
  rw [inBoxB_iff_forall₂] at hp ⊢
  rw [searchLo, searchHi, List.forall₂_map_left_iff, List.forall₂_map_left_iff] at hp
  exact ⟨hp.1.imp (geLo_of_searchLo1 h hh), hp.2.imp (leHi_of_searchHi1 h hh)⟩

/-- Finite sides of the box are at least two mesh steps wide. -/
def wideB (h : Rat) : List Ext → List Ext → Bool
  | [], [] => true
  | .fin a :: lb, .fin b :: ub => decide (2 * h ≤ b - a) && wideB h lb ub
  | _ :: lb, _ :: ub => wideB h lb ub
  | _, _ => false

theorem forall₂_of_wideB (h : Rat) (lb ub : List Ext) (hw : wideB h lb ub = true) :
    List.Forall₂ (fun l u => ∀ a b, l = .fin a → u = .fin b → 2 * h ≤ b - a) lb ub := by
  fun_induction wideB h lb ub with
  | case1 => exact .nil
  | case2 a lb b ub ih =>
    rw [Bool.and_eq_true, decide_eq_true_eq] at hw
    exact .cons (fun _ _ ha hb => by cases ha; cases hb; exact hw.1) (ih hw.2)
  | case3 l lb u ub hne ih => exact .cons (fun a b ha hb => (hne a b ha hb).elim) (ih hw)
  | case4 => cases hw

/-- The search box of a wide enough, well-formed box is itself well-formed (non-empty). -/
theorem searchBox_ok (h : Rat) (hh : 0 < h) (lb ub : List Ext) (hb : boxOK lb ub = true)
    (hw : wideB h lb ub = true) : boxOK (searchLo h lb) (searchHi h ub) = true := by
  rw [boxOK_iff_forall₂] at hb ⊢
  rw [searchLo, searchHi, List.forall₂_map_left_iff, List.forall₂_map_right_iff]
  refine List.Forall₂.mp ?_ hb (forall₂_of_wideB h lb ub hw)
  intro l u ⟨hl, hu, _⟩ hwide
  exact ⟨(isLo_searchLo1 h l).trans hl, (isHi_searchHi1 h u).trans hu, loLeHi_search h hh l u hwide⟩

theorem searchLo_length (h : Rat) (lb : List Ext) : (searchLo h lb).length = lb.length :=
  List.length_map _

end Bads
