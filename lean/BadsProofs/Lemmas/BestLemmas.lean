/-
  The running best of the poll loop (bads.py l.2106-2126): walk the evaluated points, keep the strict
  running maximum of the improvement together with the point where it was last raised.
  `Inc.pollBest`, `Noisy.pollBest`, `Ctl.pollGood` and `Noisy.argmaxFrom1.go` are this one fold.
-/
import BadsModel.Incumbent
import BadsModel.Noisy
import BadsModel.Controller
import Mathlib.Tactic.Linarith

namespace Bads

def bestFold {α : Type} (key : α → Rat) : List α → Rat → Option α → Rat × Option α
  | [], best, arg => (best, arg)
  | x :: xs, best, arg => if key x > best then bestFold key xs (key x) (some x) else bestFold key xs best arg

theorem bestFold_cases {α : Type} (key : α → Rat) : ∀ (l : List α) (best : Rat) (arg : Option α),
    (bestFold key l best arg = (best, arg) ∧ ∀ x ∈ l, key x ≤ best) ∨
    ∃ x ∈ l, bestFold key l best arg = (key x, some x) ∧ best < key x ∧ ∀ y ∈ l, key y ≤ key x := by
  intro l
  induction l with
  | nil => exact fun _ _ => Or.inl ⟨rfl, fun _ hx => nomatch hx⟩
  | cons x xs ih =>
    intro best arg
    by_cases hgt : key x > best
    · rw [bestFold, if_pos hgt]
      rcases ih (key x) (some x) with ⟨hr, hle⟩ | ⟨z, hz, hr, hlt, hmax⟩
      · exact Or.inr ⟨x, List.mem_cons_self, hr, hgt, List.forall_mem_cons.mpr ⟨le_refl _, hle⟩⟩
      · exact Or.inr ⟨z, List.mem_cons_of_mem _ hz, hr, lt_trans hgt hlt,
          List.forall_mem_cons.mpr ⟨le_of_lt hlt, hmax⟩⟩
    · rw [bestFold, if_neg hgt]
      rcases ih best arg with ⟨hr, hall⟩ | ⟨z, hz, hr, hlt, hmax⟩
      · exact Or.inl ⟨hr, List.forall_mem_cons.mpr ⟨not_lt.mp hgt, hall⟩⟩
      · exact Or.inr ⟨z, List.mem_cons_of_mem _ hz, hr, hlt,
          List.forall_mem_cons.mpr ⟨le_trans (not_lt.mp hgt) (le_of_lt hlt), hmax⟩⟩

end Bads

namespace Bads.Inc

theorem pollBest_eq_bestFold (fval : Rat) : ∀ (es : List (Pt × Rat)) (best : Rat) (arg : Option (Pt × Rat)),
    pollBest fval es best arg = bestFold (fun e => fval - e.2) es best arg := by
  intro es best arg
  induction es generalizing best arg with
  | nil => rfl
  | cons e es ih => simp only [pollBest, bestFold, ih]

end Bads.Inc

namespace Bads.Noisy

theorem pollBest_eq_bestFold (fval : Rat) : ∀ (cs : List Cand) (best : Rat) (arg : Option Cand),
    pollBest fval cs best arg = bestFold (fun c => fval - c.f) cs best arg := by
  intro cs best arg
  induction cs generalizing best arg with
  | nil => rfl
  | cons c cs ih => simp only [pollBest, bestFold, ih]

/-- `argmaxFrom1.go` with a row already chosen: the running best over the rows paired with their
    indices. -/
theorem argmaxFrom1_go_eq_bestFold : ∀ (ks : List Rat) (i j : Nat) (m : Rat),
    argmaxFrom1.go ks i (some (j, m)) = (bestFold Prod.fst (ks.zipIdx i) m (some (m, j))).2.map Prod.swap := by
  intro ks
  induction ks with
  | nil => exact fun _ _ _ => rfl
  | cons k ks ih =>
    intro i j m
    unfold argmaxFrom1.go
    simp only [List.zipIdx_cons, bestFold]
    split
    · exact ih (i + 1) i k
    · exact ih (i + 1) j m

theorem argmaxFrom1_go_cases (ks : List Rat) (i j : Nat) (m : Rat) :
    (argmaxFrom1.go ks i (some (j, m)) = some (j, m) ∧ ∀ k ∈ ks, k ≤ m) ∨
    ∃ n k, ks[n]? = some k ∧ argmaxFrom1.go ks i (some (j, m)) = some (i + n, k) ∧ m < k ∧
      ∀ k' ∈ ks, k' ≤ k := by
  have hkeys : ∀ b : Rat, (∀ p ∈ ks.zipIdx i, p.1 ≤ b) → ∀ k ∈ ks, k ≤ b := by
    intro b hb
    rw [← List.zipIdx_map_fst i ks]
    exact List.forall_mem_map.mpr hb
  rw [argmaxFrom1_go_eq_bestFold]
  rcases bestFold_cases Prod.fst (ks.zipIdx i) m (some (m, j)) with ⟨hr, hle⟩ | ⟨p, hp, hr, hlt, hmax⟩
  · exact Or.inl ⟨by rw [hr]; rfl, hkeys m hle⟩
  · obtain ⟨hi, hget⟩ := List.mem_zipIdx_iff_le_and_getElem?_sub.mp hp
    refine Or.inr ⟨p.2 - i, p.1, hget, ?_, hlt, hkeys p.1 hmax⟩
    rw [hr, Nat.add_sub_cancel' hi]
    rfl

end Bads.Noisy

namespace Bads.Ctl

/-- `pollGood` remembers of the point of the running best only whether it beat the threshold. -/
theorem pollGood_eq_bestFold (thr : Rat) : ∀ (zs : List Rat) (best : Rat) (arg : Option Rat) (good : Bool),
    pollGood thr zs best ((arg.map fun z => decide (z > thr)).getD good) =
      ((bestFold (fun z => z) zs best arg).2.map fun z => decide (z > thr)).getD good := by
  intro zs
  induction zs with
  | nil => exact fun _ _ _ => rfl
  | cons z zs ih =>
    intro best arg good
    unfold pollGood bestFold
    split
    · exact ih z (some z) good
    · exact ih best arg good

theorem pollGood_cases (thr : Rat) (zs : List Rat) (best : Rat) (good : Bool) :
    (pollGood thr zs best good = good ∧ ∀ z ∈ zs, z ≤ best) ∨
    ∃ x ∈ zs, pollGood thr zs best good = decide (x > thr) ∧ best < x ∧ ∀ z ∈ zs, z ≤ x := by
  have heq := pollGood_eq_bestFold thr zs best none good
  rcases bestFold_cases (fun z => z) zs best none with ⟨hr, hle⟩ | ⟨x, hx, hr, hlt, hmax⟩
  · rw [hr] at heq
    exact Or.inl ⟨heq, hle⟩
  · rw [hr] at heq
    exact Or.inr ⟨x, hx, heq, hlt, hmax⟩

end Bads.Ctl
