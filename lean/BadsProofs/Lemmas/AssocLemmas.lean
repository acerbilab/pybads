/-
  Association lists keyed by name.  `Opt.lookup` reads the first entry of a name; `Opt.insert`
  replaces the value in place or appends, and `Hist.store` is the same function on the history's
  slot lists.  `lookup_insert` says what is read after one `insert`; what is read after `update`,
  `loadFile` and `record` follows from it.  Also here: that a list of names has no duplicates,
  decided on numbers.
-/
import BadsModel.Options
import BadsModel.History

namespace Bads.Opt

variable {V T : Type}

theorem lookup_cons (e : String × V) (a : Assoc V) (k : String) :
    lookup (e :: a) k = if e.1 = k then some e.2 else lookup a k := by
  by_cases h : e.1 = k <;> simp [lookup, h]

theorem lookup_append (a b : Assoc V) (k : String) : lookup (a ++ b) k = (lookup a k).or (lookup b k) := by
  simp [lookup, Option.map_or]

theorem lookup_isSome (a : Assoc V) (k : String) : (lookup a k).isSome = a.any (fun e => e.1 == k) := by
  simp [lookup, List.isSome_find?]

theorem mem_keys_of_lookup {a : Assoc V} {k : String} {v : V} (h : lookup a k = some v) : k ∈ a.map (·.1) := by
  obtain ⟨e, he, -⟩ := Option.map_eq_some_iff.mp h
  exact List.mem_map.mpr ⟨e, List.mem_of_find?_eq_some he, by simpa using List.find?_some he⟩

theorem lookup_map_set (a : Assoc V) (k k' : String) (v : V) :
    lookup (a.map fun e => if e.1 == k then (k, v) else e) k' =
      if k = k' then (lookup a k').map (fun _ => v) else lookup a k' := by
  induction a with
  | nil => simp [lookup]
  | cons e a ih =>
    rw [List.map_cons, lookup_cons, lookup_cons, ih]
    by_cases he : e.1 = k
    · subst he
      by_cases hk : e.1 = k' <;> simp [hk]
    · by_cases hk : k = k'
      · subst hk; simp [he]
      · simp [he, hk]

theorem lookup_insert (a : Assoc V) (k k' : String) (v : V) :
    lookup (insert a k v) k' = if k = k' then some v else lookup a k' := by
  rw [insert, ← lookup_isSome]
  cases h : lookup a k with
  | some w =>
    rw [Option.isSome_some, if_pos rfl, lookup_map_set]
    split
    next hk => rw [← hk, h]; rfl
    next => rfl
  | none =>
    rw [Option.isSome_none, if_neg Bool.false_ne_true, lookup_append, lookup_cons]
    split
    next hk => rw [← hk, h]; rfl
    next => exact Option.or_none

/-- `r` is a dict as far as `k` goes: at most one value, `v`, under that name. -/
theorem lookup_update (k : String) (v : V) (r o : Assoc V) (h : ∀ w, (k, w) ∈ r → w = v) :
    lookup (update o r) k = if k ∈ r.map (·.1) then some v else lookup o k := by
  induction r generalizing o with
  | nil => rfl
  | cons e rest ih =>
    rw [update, ih _ fun w hw => h w (List.mem_cons_of_mem _ hw), lookup_insert]
    by_cases hk : e.1 = k
    · subst hk
      rw [if_pos rfl, h e.2 List.mem_cons_self, ite_self, List.map_cons, if_pos List.mem_cons_self]
    · simp only [hk, Ne.symm hk, if_false, List.map_cons, List.mem_cons, false_or]

theorem loadFile_cons (ev : T → Assoc V → Nat → V) (D : Nat) (prot : List String) (k : String) (tok : T)
    (rest : List (String × T)) (o : Assoc V) :
    loadFile ev D prot ((k, tok) :: rest) o =
      loadFile ev D prot rest (if k ∈ prot then o else insert o k (ev tok o D)) := by
  by_cases h : k ∈ prot <;> simp [loadFile, h]

theorem lookup_loadFile_frame (ev : T → Assoc V → Nat → V) (D : Nat) (prot : List String) (k : String) :
    ∀ (es : List (String × T)) (o : Assoc V), k ∈ prot ∨ k ∉ es.map (·.1) →
      lookup (loadFile ev D prot es o) k = lookup o k := by
  intro es
  induction es with
  | nil => exact fun _ _ => rfl
  | cons e rest ih =>
    intro o h
    rw [loadFile_cons, ih _ (h.imp_right fun hn hm => hn (List.mem_cons_of_mem _ hm))]
    split
    · rfl
    next hp =>
      rw [lookup_insert, if_neg]
      rintro rfl
      exact h.elim hp fun hn => hn List.mem_cons_self

/-- The UTF-8 bytes of `s` as the digits of one number. -/
def nameKey (s : String) : Nat := s.toByteArray.data.toList.foldl (fun n b => 256 * n + b.toNat) 0

/-- `l.Nodup` as a `Bool` that costs the kernel one `Nat.beq` per pair. -/
def distinct : List Nat → Bool
  | [] => true
  | a :: l => l.all (fun b => !Nat.beq a b) && distinct l

theorem nodup_of_distinct : ∀ {l : List Nat}, distinct l = true → l.Nodup
  | [], _ => List.nodup_nil
  | a :: l, h => by
    rw [distinct, Bool.and_eq_true, List.all_eq_true] at h
    exact List.nodup_cons.mpr ⟨fun ha => by simpa using h.1 a ha, nodup_of_distinct h.2⟩

/-- Names with distinct keys are distinct, whatever the key. -/
theorem nodup_of_distinct_keys {names : List String} (h : distinct (names.map nameKey) = true) : names.Nodup :=
  List.Pairwise.of_map nameKey (fun _ _ hne e => hne (congrArg nameKey e)) (nodup_of_distinct h)

end Bads.Opt

namespace Bads.Hist

variable {V : Type}

theorem store_eq_insert (d : List (String × List (Option V))) (key : String) (slots : List (Option V)) :
    store d key slots = Opt.insert d key slots := rfl

theorem lookup_eq (h : H V) (key : String) : lookup h key = Opt.lookup h.data key := rfl

theorem record_ok {h h' : H V} {key : String} {v : V} {it : Int} (hr : record h key v it = .ok h') :
    h' = { h with data := store h.data key (setSlot ((lookup h key).getD [none]) it.toNat v) } := by
  unfold record at hr
  split at hr
  · cases hr
  · split at hr
    · cases hr
    · cases hr; rfl

theorem lookup_record {h h' : H V} {key : String} {v : V} {it : Int} (hr : record h key v it = .ok h') (k' : String) :
    lookup h' k' = if key = k' then some (setSlot ((lookup h key).getD [none]) it.toNat v) else lookup h k' := by
  rw [record_ok hr, lookup_eq, store_eq_insert, Opt.lookup_insert]
  rfl

/-- The slots `[none]` that `record` starts a key from read like no slots at all. -/
theorem get_eq (h : H V) (key : String) (j : Nat) : get h key j = (((lookup h key).getD [none])[j]?).join := by
  unfold get
  cases lookup h key with
  | none => cases j <;> rfl
  | some slots => rfl

end Bads.Hist
