/-
  The model has one insertion sort in three places: `Bads.insertBy`/`sortBy` (candidate filter), `GP.insertBy`/`sortBy`
  (training-set selection) and `Srch.insertBy`/`sortZ` (search candidates, the comparison fixed).  The facts are proved
  for the first; the other two are shown equal to it.
-/
import BadsModel.Filter
import BadsModel.GPSet
import BadsModel.Search

namespace Bads

theorem insertBy_perm {α : Type} (le : α → α → Bool) (a : α) :
    ∀ l : List α, (insertBy le a l).Perm (a :: l)
  | [] => List.Perm.refl _
  | b :: bs => by
    unfold insertBy
    split
    · exact List.Perm.refl _
    · exact ((insertBy_perm le a bs).cons b).trans (List.Perm.swap a b bs)

theorem sortBy_perm {α : Type} (le : α → α → Bool) : ∀ l : List α, (sortBy le l).Perm l
  | [] => List.Perm.refl _
  | a :: as => (insertBy_perm le a _).trans ((sortBy_perm le as).cons a)

namespace GP

variable {α : Type}

/-- the order handed to `sortBy` to sort by a rational key -/
def keyLe (key : α → Rat) (a b : α) : Bool := decide (key a ≤ key b)

end GP

theorem insertBy_sorted {α : Type} (key : α → Rat) (a : α) : ∀ l : List α, l.Pairwise (fun x y => key x ≤ key y) →
    (insertBy (GP.keyLe key) a l).Pairwise (fun x y => key x ≤ key y) := by
  intro l
  induction l with
  | nil => exact fun _ => List.pairwise_singleton _ _
  | cons b bs ih =>
    intro h
    have ⟨hb, hbs⟩ := List.pairwise_cons.mp h
    unfold insertBy
    split
    next hab =>
      have hab : key a ≤ key b := of_decide_eq_true hab
      exact List.pairwise_cons.mpr ⟨List.forall_mem_cons.mpr ⟨hab, fun c hc => Rat.le_trans hab (hb c hc)⟩, h⟩
    next hab =>
      have hba : key b ≤ key a := Rat.le_total.resolve_left fun h => hab (decide_eq_true h)
      have hall : ∀ c ∈ a :: bs, key b ≤ key c := List.forall_mem_cons.mpr ⟨hba, hb⟩
      exact List.pairwise_cons.mpr
        ⟨fun c hc => hall c ((insertBy_perm _ a bs).mem_iff.mp hc), ih hbs⟩

theorem sortBy_sorted {α : Type} (key : α → Rat) :
    ∀ l : List α, (sortBy (GP.keyLe key) l).Pairwise (fun x y => key x ≤ key y)
  | [] => List.Pairwise.nil
  | a :: as => insertBy_sorted key a _ (sortBy_sorted key as)

namespace GP

variable {α : Type}

theorem insertBy_eq (le : α → α → Bool) (a : α) : ∀ l : List α, insertBy le a l = Bads.insertBy le a l
  | [] => rfl
  | b :: bs => by rw [insertBy, Bads.insertBy, insertBy_eq le a bs]

theorem sortBy_eq (le : α → α → Bool) : ∀ l : List α, sortBy le l = Bads.sortBy le l
  | [] => rfl
  | a :: as => by rw [sortBy, Bads.sortBy, sortBy_eq le as, insertBy_eq]

theorem insertBy_perm (le : α → α → Bool) (a : α) : ∀ l : List α, (insertBy le a l).Perm (a :: l) :=
  fun l => insertBy_eq le a l ▸ Bads.insertBy_perm le a l

theorem sortBy_perm (le : α → α → Bool) : ∀ l : List α, (sortBy le l).Perm l :=
  fun l => sortBy_eq le l ▸ Bads.sortBy_perm le l

theorem insertBy_sorted (key : α → Rat) (a : α) : ∀ l : List α, l.Pairwise (fun x y => key x ≤ key y) →
    (insertBy (keyLe key) a l).Pairwise (fun x y => key x ≤ key y) :=
  fun l h => insertBy_eq _ a l ▸ Bads.insertBy_sorted key a l h

theorem sortBy_sorted (key : α → Rat) : ∀ l : List α, (sortBy (keyLe key) l).Pairwise (fun x y => key x ≤ key y) :=
  fun l => sortBy_eq _ l ▸ Bads.sortBy_sorted key l

theorem take_le_drop (key : α → Rat) (l : List α) (h : l.Pairwise (fun x y => key x ≤ key y)) (n : Nat) :
    ∀ a ∈ l.take n, ∀ b ∈ l.drop n, key a ≤ key b := by
  rw [← List.take_append_drop n l] at h
  exact (List.pairwise_append.mp h).2.2

end GP

namespace Srch

theorem insertBy_eq (a : Cand) : ∀ l : List Cand, insertBy a l = Bads.insertBy (GP.keyLe Prod.snd) a l
  | [] => rfl
  | b :: bs => by simp only [insertBy, Bads.insertBy, GP.keyLe, decide_eq_true_eq, insertBy_eq a bs]

theorem sortZ_eq : ∀ l : List Cand, sortZ l = Bads.sortBy (GP.keyLe Prod.snd) l
  | [] => rfl
  | a :: as => by rw [sortZ, Bads.sortBy, sortZ_eq as, insertBy_eq]

end Srch

end Bads
