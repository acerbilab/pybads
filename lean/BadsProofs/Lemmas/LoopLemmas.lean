/-
  The `while not is_finished` loop, once.  `Ctl.run`, `Det.run` and `Full.run` are all `whileRun` (`Ctl.run_eq_whileRun`,
  `Det.run_eq_whileRun`, `Full.run_eq_whileRun`); the "in every state a run reaches" theorems about them are `whileRun_induction`, the
  termination theorems `whileRun_finished`.
-/

namespace Bads

variable {σ ω : Type}

def whileRun (fin : σ → Bool) (step : σ → ω → σ) : List ω → σ → σ
  | [], s => s
  | q :: qs, s => if fin s then s else whileRun fin step qs (step s q)

theorem eq_whileRun (fin : σ → Bool) (step : σ → ω → σ) (run : List ω → σ → σ) (hnil : ∀ s, run [] s = s)
    (hcons : ∀ q qs s, run (q :: qs) s = if fin s then s else run qs (step s q)) :
    ∀ (qs : List ω) (s : σ), run qs s = whileRun fin step qs s := by
  intro qs
  induction qs with
  | nil => exact hnil
  | cons q qs ih => intro s; rw [hcons, whileRun, ih]

/-- One more answer of the oracle at the end of the stream is one more iteration, unless the loop has finished before. -/
theorem whileRun_snoc (fin : σ → Bool) (step : σ → ω → σ) (q : ω) : ∀ (qs : List ω) (s : σ),
    whileRun fin step (qs ++ [q]) s =
      if fin (whileRun fin step qs s) then whileRun fin step qs s else step (whileRun fin step qs s) q := by
  intro qs
  induction qs with
  | nil => intro s; rfl
  | cons q' qs ih =>
    intro s
    by_cases h : fin s = true
    · simp only [List.cons_append, whileRun, if_pos h]
    · simp only [List.cons_append, whileRun, if_neg h, ih]

theorem whileRun_induction (fin : σ → Bool) (step : σ → ω → σ) (P : σ → Prop) :
    ∀ (qs : List ω) (s : σ), P s → (∀ q ∈ qs, ∀ s, fin s = false → P s → P (step s q)) → P (whileRun fin step qs s) := by
  intro qs
  induction qs with
  | nil => exact fun _ h _ => h
  | cons q qs ih =>
    intro s h hstep
    unfold whileRun
    split
    · exact h
    · exact ih _ (hstep q List.mem_cons_self s (Bool.of_not_eq_true ‹_›) h) (fun q' hq' => hstep q' (List.mem_cons_of_mem _ hq'))

theorem whileRun_finished (fin : σ → Bool) (step : σ → ω → σ) (I : σ → Prop) (rank : σ → Nat)
    (hstep : ∀ s q, I s → fin s = false → I (step s q) ∧ (fin (step s q) = false → rank (step s q) < rank s)) :
    ∀ (qs : List ω) (s : σ), I s → rank s < qs.length → fin (whileRun fin step qs s) = true := by
  intro qs
  induction qs with
  | nil => intro _ _ h; simp at h
  | cons q qs ih =>
    intro s hI hr
    unfold whileRun
    split
    · assumption
    · have hs := hstep s q hI (Bool.of_not_eq_true ‹_›)
      by_cases hf : fin (step s q) = true
      · cases qs <;> simp [whileRun, hf]
      · exact ih _ hs.1 (Nat.lt_of_lt_of_le (hs.2 (Bool.of_not_eq_true hf)) (Nat.le_of_lt_succ hr))

end Bads
