/-
  IEEE comparisons on `Ext`, the effective bounds of `Validate`, and its pointwise list
  operations (`anyB`, `zip2`, `map2`, `zip5`) read by index.
-/
import BadsModel.Validate

namespace Bads
namespace Ext

theorem lt_eq_not_le {a b : Ext} (ha : a.isNan = false) (hb : b.isNan = false) : lt a b = !le b a := by
  cases a <;> cases b <;> simp_all [lt, le, isNan, ← Rat.not_le]

theorem not_nan_of_le {a b : Ext} (h : le a b = true) : a.isNan = false ∧ b.isNan = false := by
  cases a <;> cases b <;> simp_all [le, isNan]

theorem isInf_eq_not_isFinite {a : Ext} (h : a.isNan = false) : a.isInf = !a.isFinite := by
  cases a <;> simp_all [isNan, isInf, isFinite]

end Ext

namespace Val

/-- Half-bounded or not: an infinite bound is returned as it is, and next to a finite one an
    infinite range is replaced by 1000 before it is scaled. -/
theorem effLo_not_nan {lb ub : Ext} (hl : lb.isNan = false) (hu : ub.isNan = false) :
    (effLo lb ub).isNan = false := by
  cases lb with
  | nan => cases hl
  | _ => cases ub with
    | nan => cases hu
    | _ => rfl

theorem effHi_not_nan {lb ub : Ext} (hl : lb.isNan = false) (hu : ub.isNan = false) :
    (effHi lb ub).isNan = false := by
  cases lb with
  | nan => cases hl
  | _ => cases ub with
    | nan => cases hu
    | _ => rfl

theorem anyB_eq_false {l : List Bool} : anyB l = false ↔ ∀ b ∈ l, b = false := by
  simp [anyB]

theorem anyB_map_eq_false {α : Type} {p : α → Bool} {l : List α} :
    anyB (l.map p) = false ↔ ∀ x ∈ l, p x = false :=
  anyB_eq_false.trans List.forall_mem_map

theorem all_of_anyB_map_not {α : Type} (p : α → Bool) (l : List α)
    (h : anyB (l.map fun x => !p x) = false) : l.all p = true := by
  rw [List.all_eq_true]
  intro x hx
  simpa using anyB_map_eq_false.mp h x hx

theorem zip2_eq_zipWith (f : Ext → Ext → Bool) (a b : List Ext) : zip2 f a b = List.zipWith f a b := by
  induction a generalizing b <;> cases b <;> simp [zip2, *]

theorem map2_eq_zipWith (f : Ext → Ext → Ext) (a b : List Ext) : map2 f a b = List.zipWith f a b := by
  induction a generalizing b <;> cases b <;> simp [map2, *]

theorem getElem?_map2 (f : Ext → Ext → Ext) {a b : List Ext} {i : Nat} {ai bi : Ext}
    (ha : a[i]? = some ai) (hb : b[i]? = some bi) : (map2 f a b)[i]? = some (f ai bi) := by
  rw [map2_eq_zipWith, List.getElem?_zipWith, ha, hb]

theorem exists_cons_of_getElem? {α : Type} {l : List α} {i : Nat} {x : α} (h : l[i]? = some x) :
    ∃ y ys, l = y :: ys :=
  List.exists_cons_of_ne_nil (List.ne_nil_of_mem (List.mem_of_getElem? h))

/-- `zip5` stops at the shortest list, so nothing is asked of the lengths. -/
theorem zip5_all_of_get (f : Ext → Ext → Ext → Ext → Ext → Bool) (a b c d e : List Ext)
    (h : ∀ (i : Nat) (ai bi ci di ei : Ext), a[i]? = some ai → b[i]? = some bi → c[i]? = some ci →
      d[i]? = some di → e[i]? = some ei → f ai bi ci di ei = true) :
    (zip5 f a b c d e).all id = true := by
  fun_induction zip5 f a b c d e with
  | case1 a as b bs c cs d ds e es ih =>
    rw [List.all_cons, Bool.and_eq_true]
    exact ⟨h 0 a b c d e rfl rfl rfl rfl rfl, ih fun i => h (i + 1)⟩
  | case2 => rfl

end Val
end Bads
