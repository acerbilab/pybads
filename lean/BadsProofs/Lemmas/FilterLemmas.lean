/-
  The stages of the candidate filter (Filter.lean), one at a time: the box stage puts or keeps points in the box, `dedupBy` keeps the first
  point of every key, the key stage permutes, the constraint stage drops.  Together: `filterCode_subperm`, the filter only drops and
  reorders rows of the box stage; `filterSpec_perm`, the documented filter is the code's followed by the freshness test, up to order.
-/
import BadsModel.Filter
import BadsProofs.Lemmas.NumLemmas
import BadsProofs.Lemmas.SortLemmas

namespace Bads

theorem clampPt_inBox (lo hi : List Ext) (p : Pt) (hb : boxOK lo hi = true) (hl : p.length = lo.length) :
    inBoxB lo hi (clampPt lo hi p) = true := by
  rw [boxOK_iff_forall₂] at hb
  induction hb generalizing p with
  | nil => cases p with
    | nil => rfl
    | cons _ _ => cases hl
  | cons h _ ih =>
    cases p with
    | nil => cases hl
    | cons x p =>
      obtain ⟨h1, h2⟩ := clampE_mem _ _ x h.1 h.2.1 h.2.2
      rw [clampPt, inBoxB, decide_eq_true h1, decide_eq_true h2, ih p (Nat.succ.inj hl)]
      rfl

theorem clampPt_id (lo hi : List Ext) (p : Pt) (hb : inBoxB lo hi p = true) : clampPt lo hi p = p := by
  obtain ⟨hlo, hhi⟩ := (inBoxB_iff_forall₂ lo hi p).mp hb
  clear hb
  induction hlo generalizing hi with
  | nil => cases hhi; rfl
  | cons h1 _ ih =>
    cases hhi with
    | cons h2 hhi => rw [clampPt, clampE_id _ _ _ h1 h2, ih _ hhi]

theorem boxStage_inBox (proj : Bool) (lo hi : List Ext) (U : List Pt)
    (h : proj = true → boxOK lo hi = true ∧ ∀ p ∈ U, p.length = lo.length) :
    ∀ p ∈ boxStage proj lo hi U, InBox lo hi p := by
  intro p hp
  unfold boxStage at hp
  cases proj with
  | true =>
    obtain ⟨hb, hl⟩ := h rfl
    simp only [if_true, List.mem_map] at hp
    obtain ⟨q, hq, rfl⟩ := hp
    exact clampPt_inBox lo hi q hb (hl q hq)
  | false =>
    simp only [Bool.false_eq_true, if_false, List.mem_filter] at hp
    exact hp.2

theorem dedupBy_sublist {α β : Type} [DecidableEq β] (f : α → β) :
    ∀ (l : List α) (seen : List β), (dedupBy f l seen).Sublist l := by
  intro l
  induction l with
  | nil => exact fun _ => List.Sublist.refl _
  | cons a as ih =>
    intro seen
    unfold dedupBy
    split
    · exact (ih seen).cons a
    · exact (ih _).cons_cons a

theorem dedupBy_keys {α β : Type} [DecidableEq β] (f : α → β) :
    ∀ (l : List α) (seen : List β), ((dedupBy f l seen).map f).Nodup ∧ ∀ a ∈ dedupBy f l seen, f a ∉ seen := by
  intro l
  induction l with
  | nil => exact fun _ => ⟨List.nodup_nil, nofun⟩
  | cons b bs ih =>
    intro seen
    unfold dedupBy
    split
    · exact ih seen
    next hb =>
      obtain ⟨hn, hs⟩ := ih (f b :: seen)
      refine ⟨List.nodup_cons.mpr ⟨fun hc => ?_, hn⟩,
        List.forall_mem_cons.mpr ⟨hb, fun a ha hc => hs a ha (List.mem_cons_of_mem _ hc)⟩⟩
      obtain ⟨a, ha, hfa⟩ := List.mem_map.mp hc
      exact hs a ha (hfa ▸ List.mem_cons_self)

/-- Every key present in the input and not yet seen survives (by its first occurrence). -/
theorem dedupBy_complete {α β : Type} [DecidableEq β] (f : α → β) :
    ∀ (l : List α) (seen : List β), ∀ a ∈ l, f a ∉ seen → ∃ b ∈ dedupBy f l seen, f b = f a := by
  intro l
  induction l with
  | nil => exact fun _ _ h => nomatch h
  | cons c cs ih =>
    intro seen a h hs
    unfold dedupBy
    rcases List.mem_cons.mp h with rfl | h
    · rw [if_neg hs]
      exact ⟨a, List.mem_cons_self, rfl⟩
    · split
      · exact ih seen a h hs
      · by_cases hk : f a = f c
        · exact ⟨c, List.mem_cons_self, hk.symm⟩
        · obtain ⟨b, hb, hfb⟩ := ih (f c :: seen) a h (List.not_mem_cons_of_ne_of_not_mem hk hs)
          exact ⟨b, List.mem_cons_of_mem _ hb, hfb⟩

theorem keyStage_perm (t : Rat) (U logX : List Pt) :
    (keyStage t U logX).Perm (dedupBy (keyOf t) U []) := by
  unfold keyStage
  exact sortBy_perm _ _

theorem keyStage_mem (t : Rat) (U logX : List Pt) (p : Pt) :
    p ∈ keyStage t U logX → p ∈ U := by
  intro h
  exact (dedupBy_sublist _ U []).subset ((keyStage_perm t U logX).mem_iff.mp h)

theorem keyStage_nodup (t : Rat) (U logX : List Pt) :
    ((keyStage t U logX).map (keyOf t)).Nodup :=
  ((keyStage_perm t U logX).map (keyOf t)).nodup_iff.mpr (dedupBy_keys _ U []).1

theorem keyStageSpec_perm (t : Rat) (U logX : List Pt) :
    (keyStageSpec t U logX).Perm ((keyStage t U logX).filter fun p => !(logX.map (keyOf t)).contains (keyOf t p)) :=
  (sortBy_perm _ _).trans ((keyStage_perm t U logX).filter _).symm

theorem consStage_sub (c : Option (Pt → Bool)) (U : List Pt) : (consStage c U).Sublist U := by
  unfold consStage
  cases c with
  | none => exact List.Sublist.refl _
  | some c => exact List.filter_sublist

theorem filterCode_subperm (I : FilterIn) : (filterCode I).Subperm (boxStage I.proj I.lo I.hi I.U) :=
  (consStage_sub _ _).subperm.trans ((keyStage_perm _ _ _).subperm.trans
    ((dedupBy_sublist _ _ _).trans (dedupBy_sublist _ _ _)).subperm)

theorem filterSpec_perm (I : FilterIn) : (filterSpec I).Perm
    ((filterCode I).filter fun p => !(I.logX.map (keyOf (I.tolMesh / 2))).contains (keyOf (I.tolMesh / 2) p)) := by
  have h := keyStageSpec_perm (I.tolMesh / 2) (dedupRows (boxStage I.proj I.lo I.hi I.U)) I.logX
  unfold filterSpec filterCode consStage
  cases I.cons with
  | none => exact h
  | some c => exact List.filter_comm _ _ _ ▸ h.filter _

theorem mem_filterSpec {I : FilterIn} {p : Pt} :
    p ∈ filterSpec I ↔ p ∈ filterCode I ∧ keyOf (I.tolMesh / 2) p ∉ I.logX.map (keyOf (I.tolMesh / 2)) := by
  rw [(filterSpec_perm I).mem_iff, List.mem_filter, Bool.not_eq_true', List.contains_eq_mem, decide_eq_false_iff_not]

theorem boxStage_length_le (proj : Bool) (lo hi : List Ext) (U : List Pt) : (boxStage proj lo hi U).length ≤ U.length := by
  unfold boxStage
  split
  · rw [List.length_map]
  · exact List.length_filter_le _ _

end Bads
