/-
  Numbers and boxes: rounding to the grid stays within half a step (`forceToGrid_close`); `clampE` is an upper clamp followed by a
  lower one, each monotone, the identity inside and landing inside; and the Boolean box tests read coordinate by coordinate
  (`inBoxB_iff_forall₂`, `boxOK_iff_forall₂`), so that facts about boxes need only be proved for one coordinate.
-/
import BadsModel.Num
import Mathlib.Tactic.Linarith
import Mathlib.Data.Rat.Floor
import Mathlib.Data.List.Forall2

namespace Bads

/-- What the distance bound needs of half-to-even rounding: down from a fractional part `≤ 1/2`, up
    from one `≥ 1/2`; which way a tie goes is irrelevant. -/
theorem roundHE_cases (x : Rat) :
    roundHE x = x.floor ∧ x - x.floor ≤ 1/2 ∨ roundHE x = x.floor + 1 ∧ 1/2 ≤ x - x.floor := by
  rcases lt_trichotomy (x - x.floor) (1/2) with h | h | h
  · exact Or.inl ⟨if_pos h, h.le⟩
  · rw [roundHE, if_neg h.not_lt, if_neg h.not_gt]
    split
    · exact Or.inl ⟨rfl, h.le⟩
    · exact Or.inr ⟨rfl, h.ge⟩
  · exact Or.inr ⟨(if_neg h.not_gt).trans (if_pos h), h.le⟩

theorem roundHE_close (x : Rat) : |(roundHE x : Rat) - x| ≤ 1/2 := by
  rcases roundHE_cases x with ⟨hr, hd⟩ | ⟨hr, hd⟩
  · rwa [hr, abs_sub_comm, abs_of_nonneg (sub_nonneg.mpr (Rat.floor_le x))]
  · rw [hr, abs_of_nonneg (sub_nonneg.mpr (Rat.lt_floor_add_one x).le), Int.cast_add, Int.cast_one]
    calc (x.floor : Rat) + 1 - x = 1 - (x - x.floor) := by ring
      _ ≤ 1 - 1/2 := sub_le_sub_left hd 1
      _ = 1/2 := by norm_num

theorem forceToGrid_close (h x : Rat) (hh : 0 < h) : |forceToGrid h x - x| ≤ h / 2 := by
  unfold forceToGrid
  have e : h * (roundHE (x / h) : Rat) - x = h * ((roundHE (x / h) : Rat) - x / h) := by
    rw [mul_sub, mul_div_cancel₀ x hh.ne']
  rw [e, abs_mul, abs_of_pos hh, ← mul_one_div h 2]
  exact Rat.mul_le_mul_of_nonneg_left (roundHE_close (x / h)) hh.le

/-- `np.minimum(x, hi)`, the inner half of `clampE`. -/
def clampHi (hi : Ext) (x : Rat) : Rat :=
  match hi with
  | .fin b => min x b
  | _ => x

/-- `np.maximum(y, lo)`, the outer half of `clampE`. -/
def clampLo (lo : Ext) (y : Rat) : Rat :=
  match lo with
  | .fin a => max y a
  | _ => y

theorem clampE_eq (lo hi : Ext) (x : Rat) : clampE lo hi x = clampLo lo (clampHi hi x) := rfl

theorem clampHi_mono (hi : Ext) {x y : Rat} (hxy : x ≤ y) : clampHi hi x ≤ clampHi hi y := by
  cases hi with
  | fin b => exact min_le_min_right b hxy
  | _ => exact hxy

theorem clampLo_mono (lo : Ext) {x y : Rat} (hxy : x ≤ y) : clampLo lo x ≤ clampLo lo y := by
  cases lo with
  | fin a => exact max_le_max_right a hxy
  | _ => exact hxy

theorem clampHi_id {hi : Ext} {x : Rat} (hx : leHi hi x) : clampHi hi x = x := by
  cases hi with
  | fin b => exact min_eq_left hx
  | _ => rfl

theorem clampLo_id {lo : Ext} {y : Rat} (hy : geLo lo y) : clampLo lo y = y := by
  cases lo with
  | fin a => exact max_eq_left hy
  | _ => rfl

theorem clampHi_le {hi : Ext} (hh : isHi hi = true) (x : Rat) : leHi hi (clampHi hi x) := by
  cases hi with
  | fin b => exact min_le_right x b
  | pinf => trivial
  | _ => cases hh

theorem clampLo_ge {lo : Ext} (hl : isLo lo = true) (y : Rat) : geLo lo (clampLo lo y) := by
  cases lo with
  | fin a => exact le_max_right y a
  | ninf => trivial
  | _ => cases hl

theorem clampLo_le {lo hi : Ext} (hlh : loLeHi lo hi = true) {y : Rat} (hy : leHi hi y) :
    leHi hi (clampLo lo y) := by
  cases hi with
  | fin b =>
    cases lo with
    | fin a => exact max_le hy (of_decide_eq_true hlh)
    | _ => exact hy
  | _ => exact hy

theorem clampE_mem (l h : Ext) (x : Rat) (hl : isLo l = true) (hh : isHi h = true)
    (hlh : loLeHi l h = true) : geLo l (clampE l h x) ∧ leHi h (clampE l h x) :=
  ⟨clampLo_ge hl _, clampLo_le hlh (clampHi_le hh x)⟩

theorem clampE_id (l h : Ext) (x : Rat) (h1 : geLo l x) (h2 : leHi h x) : clampE l h x = x := by
  rw [clampE_eq, clampHi_id h2, clampLo_id h1]

theorem inBoxB_iff_forall₂ (lo hi : List Ext) (p : Pt) :
    inBoxB lo hi p = true ↔ List.Forall₂ geLo lo p ∧ List.Forall₂ leHi hi p := by
  induction lo generalizing hi p with
  | nil => cases hi <;> cases p <;> simp [inBoxB]
  | cons l lo ih => cases hi <;> cases p <;> simp [inBoxB, ih, and_and_and_comm]

theorem boxOK_iff_forall₂ (lo hi : List Ext) :
    boxOK lo hi = true ↔
      List.Forall₂ (fun l h => isLo l = true ∧ isHi h = true ∧ loLeHi l h = true) lo hi := by
  induction lo generalizing hi with
  | nil => cases hi <;> simp [boxOK]
  | cons l lo ih => cases hi <;> simp [boxOK, ih, and_assoc]

end Bads
