import BadsProofs.Lemmas.AssocLemmas
import BadsProofs.Lemmas.BestLemmas
import BadsProofs.Lemmas.CtlLemmas
import BadsProofs.Lemmas.ExtLemmas
import BadsProofs.Lemmas.FilterLemmas
import BadsProofs.Lemmas.LogLemmas
import BadsProofs.Lemmas.LoopLemmas
import BadsProofs.Lemmas.MeshLemmas
import BadsProofs.Lemmas.NoisyLemmas
import BadsProofs.Lemmas.NumLemmas
import BadsProofs.Lemmas.SortLemmas
import BadsProofs.Props.C01
import BadsProofs.Props.C01Opt
import BadsProofs.Props.C02
import BadsProofs.Props.C02Opt
import BadsProofs.Props.C03
import BadsProofs.Props.C03Opt
import BadsProofs.Props.C04
import BadsProofs.Props.C04Opt
import BadsProofs.Props.C04Run
import BadsProofs.Props.C05
import BadsProofs.Props.C05Opt
import BadsProofs.Props.C07
import BadsProofs.Props.C08
import BadsProofs.Props.C09
import BadsProofs.Props.C10
import BadsProofs.Props.C11
import BadsProofs.Props.C12
import BadsProofs.Props.C12Book
import BadsProofs.Props.C13
import BadsProofs.Props.C13Opt
import BadsProofs.Props.C14
import BadsProofs.Props.C14Opt
import BadsProofs.Props.C14Run
import BadsProofs.Props.C15
import BadsProofs.Props.C15Run
import BadsProofs.Props.C16
import BadsProofs.Props.C16Opt
import BadsProofs.Props.C16Run
import BadsProofs.Props.C17
import BadsProofs.Props.C17Opt
import BadsProofs.Props.C17Run
import BadsProofs.Props.C18
import BadsProofs.Props.C18Mask
import BadsProofs.Props.C18Opt
import BadsProofs.Props.C19
import BadsProofs.Props.C19Container
import BadsProofs.Props.C19Opt
import BadsProofs.Props.C19Run
import BadsProofs.Props.C20
